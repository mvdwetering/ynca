import YncaVerif.Props.C02
/-! # C02 (extension) — framing is lossless, and the reported packets are THE decomposition of the
    received bytes at the terminators (so the harness oracle `bytes.split(b"\r\n")` and the model agree) -/
namespace Ynca.C02

/-- `NoCRLF l` (`splitFirst CR LF l = none`) is the plain statement "CR LF does not occur in `l`" -/
theorem NoCRLF_iff_not_infix (l : List UInt8) : NoCRLF l ↔ ¬ [CR, LF] <:+: l :=
  splitFirst_none_iff_not_infix CR LF l

/-- **lossless**: the reported lines, each with its terminator put back, followed by the bytes still
    buffered, are exactly the initial buffer followed by all bytes read — nothing is invented, lost or
    reordered, whatever the chunking. -/
theorem C02_lossless (buf : List UInt8) (hbuf : NoCRLF buf) (chunks : List (List UInt8))
    (lines : List (List UInt8)) (rest : List UInt8)
    (h : feedAll CR LF buf chunks = (lines, rest)) :
    (lines.map (· ++ [CR, LF])).flatten ++ rest = buf ++ chunks.flatten := by
  have := (splitAll_spec CR LF (buf ++ chunks.flatten)).1
  rwa [splitAll_of_feedAll hbuf h] at this

/-- no reported line contains the terminator -/
theorem C02_lines_have_no_terminator (buf : List UInt8) (hbuf : NoCRLF buf)
    (chunks : List (List UInt8)) (lines : List (List UInt8)) (rest : List UInt8)
    (h : feedAll CR LF buf chunks = (lines, rest)) :
    ∀ l ∈ lines, NoCRLF l := by
  have := (splitAll_spec CR LF (buf ++ chunks.flatten)).2.1
  rwa [splitAll_of_feedAll hbuf h] at this

/-- the bytes still buffered contain no terminator: an incomplete trailing line is never reported,
    and a complete one never stays behind -/
theorem C02_tail_incomplete (buf : List UInt8) (hbuf : NoCRLF buf)
    (chunks : List (List UInt8)) (lines : List (List UInt8)) (rest : List UInt8)
    (h : feedAll CR LF buf chunks = (lines, rest)) :
    NoCRLF rest := by
  have := splitAll_rem_none CR LF (buf ++ chunks.flatten)
  rwa [splitAll_of_feedAll hbuf h] at this

/-- **unique decomposition**.  Side conditions: every line is free of CR LF (`NoCRLF l`) and so is the
    tail.  Nothing more is needed: a line may end in CR (`l ++ [CR, LF]` then ends `CR CR LF`, and the
    leftmost terminator is still the appended one because the terminator starts with CR ≠ LF), and
    a line or the tail may start with LF for the same reason.  Under these conditions the data has only
    one decomposition, and it is the one the model reports.  (The existence half — the model reports
    `(ls, r)` for `wire ls r` — is `C02_lines_roundtrip` / `C02_lines_any_chunking`; this theorem adds
    that any two such decompositions of the same bytes coincide.) -/
theorem C02_unique_decomposition (ls ls' : List (List UInt8)) (r r' : List UInt8)
    (hl : ∀ l ∈ ls, NoCRLF l) (hr : NoCRLF r)
    (hl' : ∀ l ∈ ls', NoCRLF l) (hr' : NoCRLF r')
    (h : wire ls r = wire ls' r') : ls = ls' ∧ r = r' := by
  have h1 := C02_lines_roundtrip ls r hl hr
  have h2 := C02_lines_roundtrip ls' r' hl' hr'
  rw [h, h2] at h1
  exact ⟨(congrArg Prod.fst h1).symm, (congrArg Prod.snd h1).symm⟩

/-- the form asked for by the harness: a decomposition of `data` that meets the side conditions is what
    the model reports when `data` arrives in one read (any other chunking: `C02_lines_any_chunking`) -/
theorem C02_decomposition_is_model (data : List UInt8) (ls : List (List UInt8)) (r : List UInt8)
    (hd : (ls.map (· ++ [CR, LF])).flatten ++ r = data)
    (hl : ∀ l ∈ ls, NoCRLF l) (hr : NoCRLF r) :
    feedAll CR LF [] [data] = (ls, r) :=
  C02_lines_any_chunking ls r hl hr [data] (by simpa [wire, Ynca.wire] using hd.symm)

/-- number of non-overlapping CR LF occurrences, scanning from the left -/
def countCRLF : List UInt8 → Nat
  | [] => 0
  | [_] => 0
  | x :: y :: rest => if x = CR ∧ y = LF then countCRLF rest + 1 else countCRLF (y :: rest)

theorem countCRLF_eq (l : List UInt8) : countCRLF l = countTerm CR LF l := by
  fun_induction countCRLF l with
  | case1 => simp [countTerm]
  | case2 => simp [countTerm]
  | case3 x y rest hxy ih => simp [countTerm, hxy, ih]
  | case4 x y rest hxy ih => simp [countTerm, hxy, ih]

/-- **count**: the number of reported lines is the number of CR LF occurrences in the received bytes -/
theorem C02_count (buf : List UInt8) (hbuf : NoCRLF buf) (chunks : List (List UInt8))
    (lines : List (List UInt8)) (rest : List UInt8)
    (h : feedAll CR LF buf chunks = (lines, rest)) :
    lines.length = countCRLF (buf ++ chunks.flatten) := by
  have := splitAll_length CR LF (buf ++ chunks.flatten)
  rwa [splitAll_of_feedAll hbuf h, ← countCRLF_eq] at this

-- a non-empty initial buffer ending in CR, cuts between CR and LF, an empty read, a line ending in CR,
-- a line starting with LF, an empty line, and an incomplete tail ending in CR
example : NoCRLF [64, 13] := by decide +kernel
example : feedAll CR LF [64, 13] [[10, 65, 13], [13], [], [10, 10, 66, 13, 10, 13], [10, 67, 13]] =
    ([[64], [65, 13], [10, 66], []], [67, 13]) := by decide +kernel
example : ([[64], [65, 13], [10, 66], ([] : List UInt8)].map (· ++ [CR, LF])).flatten ++ [67, 13] =
    [64, 13] ++ [[10, 65, 13], [13], [], [10, 10, 66, 13, 10, 13], [10, 67, 13]].flatten := by
  decide +kernel
example : ∀ l ∈ [[64], [65, 13], [10, 66], ([] : List UInt8)], NoCRLF l := by decide +kernel
example : NoCRLF [67, 13] := by decide +kernel
example : countCRLF ([64, 13] ++ [[10, 65, 13], [13], [], [10, 10, 66, 13, 10, 13], [10, 67, 13]].flatten) = 4 := by
  decide +kernel
-- the side condition of the uniqueness theorem is needed: with a CR LF inside a "line" the same
-- bytes have two decompositions
example : wire [[64, 13, 10, 65]] [] = wire [[64], [65]] [] := by decide +kernel
example : ¬ NoCRLF [64, 13, 10, 65] := by decide +kernel
end Ynca.C02
