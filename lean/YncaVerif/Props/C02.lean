import YncaVerif.Lemmas.FramingX
/-! # C02 — received bytes are framed and parsed identically however they are chunked -/
namespace Ynca.C02

/-- a byte string that does not contain the terminator CR LF
    (`Ynca.NoCRLF l := splitFirst CR LF l = none`, defined in `Lemmas/Framing.lean`) -/
abbrev NoCRLF (l : List UInt8) : Prop := Ynca.NoCRLF l

/-- **chunk independence**: feeding a stream in any partition into reads yields exactly the packets
    (in order) and the final buffer of the undivided stream — including cuts inside CR LF and inside
    multi-byte characters, empty reads, and a non-empty initial buffer.  The initial buffer holds no
    complete packet (`NoCRLF buf`), as is the case for every buffer `feed` leaves behind
    (`splitAll_rem_none`); without it the statement fails for `chunks = []`, where `feedAll` returns
    the buffer unsplit. -/
theorem C02_chunk_independent (buf : List UInt8) (hbuf : NoCRLF buf) (chunks : List (List UInt8)) :
    feedAll CR LF buf chunks = splitAll CR LF (buf ++ chunks.flatten) :=
  feedAll_eq_splitAll CR LF buf chunks hbuf

/-- wire image of a list of lines followed by an unterminated tail
    (`Ynca.wire lines tail := (lines.map (· ++ [CR, LF])).flatten ++ tail`, defined in `Lemmas/Framing.lean`) -/
abbrev wire (lines : List (List UInt8)) (tail : List UInt8) : List UInt8 := Ynca.wire lines tail

/-- **framing round trip**: lines that do not contain CR LF come back exactly, one packet each, in
    order; an incomplete trailing line is never reported (it stays in the buffer) -/
theorem C02_lines_roundtrip (lines : List (List UInt8)) (tail : List UInt8)
    (hl : ∀ l ∈ lines, NoCRLF l) (ht : NoCRLF tail) :
    splitAll CR LF (wire lines tail) = (lines, tail) :=
  splitAll_wireG CR LF (by decide) lines tail hl ht

/-- the same, for any partition of the wire image into reads -/
theorem C02_lines_any_chunking (lines : List (List UInt8)) (tail : List UInt8)
    (hl : ∀ l ∈ lines, NoCRLF l) (ht : NoCRLF tail)
    (chunks : List (List UInt8)) (hc : chunks.flatten = wire lines tail) :
    feedAll CR LF [] chunks = (lines, tail) := by
  rw [C02_chunk_independent [] rfl, List.nil_append, hc]
  exact C02_lines_roundtrip lines tail hl ht

/-- UTF-8 never produces the bytes CR or LF except for the characters CR and LF themselves, hence the
    encoding of a text without the two-character sequence CR LF contains no terminator -/
theorem C02_utf8_no_terminator (s : String)
    (h : ∀ pre post : List Char, s.toList ≠ pre ++ '\r' :: '\n' :: post) :
    NoCRLF s.toUTF8.toList := by
  rw [NoCRLF, Ynca.NoCRLF, toUTF8_toList]
  exact enc_noCRLF s.toList h

/-- **parse**: `@S:F=V` with `S` non-empty without colon, `F` non-empty without equals sign and ANY
    value text `V` (empty, containing `:`/`=`/CR/LF, any Unicode) is reported as OK with exactly S, F, V -/
theorem C02_parse (S F V : List Char) (hS : S ≠ []) (hS' : ':' ∉ S) (hF : F ≠ []) (hF' : '=' ∉ F) :
    parseLine (String.ofList ('@' :: S ++ ':' :: F ++ '=' :: V)) =
      ⟨.ok, some (String.ofList S), some (String.ofList F), some (String.ofList V)⟩ := by
  have hm := matchLine_fields S F V hS hS' hF hF'
  -- the line holds a colon, the two status literals do not
  have hne : ∀ w : String, ':' ∉ w.toList → String.ofList ('@' :: S ++ ':' :: F ++ '=' :: V) ≠ w := by
    rintro w hw rfl
    exact hw (by simp)
  have h1 := hne "@UNDEFINED" (by decide)
  have h2 := hne "@RESTRICTED" (by decide)
  generalize '@' :: S ++ ':' :: F ++ '=' :: V = L at *
  simp only [parseLine, String.toList_ofList, hm, beq_iff_eq, if_neg h1, if_neg h2]

/-- **status literals** -/
theorem C02_status :
    parseLine "@UNDEFINED" = ⟨.undefined, none, none, none⟩ ∧
    parseLine "@RESTRICTED" = ⟨.restricted, none, none, none⟩ := by
  constructor <;> decide +kernel

example : parseLine "@MAIN:VOL=-30.5" = ⟨.ok, some "MAIN", some "VOL", some "-30.5"⟩ := by decide +kernel
example : parseLine "@MAIN:ZONENAME=a:b=c\nd" = ⟨.ok, some "MAIN", some "ZONENAME", some "a:b=c\nd"⟩ := by decide +kernel
example : splitAll CR LF [64, 13, 10, 65, 13] = ([[64]], [65, 13]) := by decide +kernel
example : feedAll CR LF [] [[64, 13], [10, 65], [13]] = ([[64]], [65, 13]) := by decide +kernel
end Ynca.C02
