import YncaVerif.Lemmas.Dialogue2
/-! # C06 at the granularity of the callback fan-out — over the L5m model (several subunit objects)

`C06_barrier` (Props/C06b.lean) is proved over `Ynca.L5`, where the reader processes a received line in one
atomic step.  In the source the reader hands a received line to the callbacks of all subunit objects on the
connection one after the other, and each object's callback sets that object's own event on a `SYS:VERSION`
line as long as the object is not `_initialized`.  `Ynca.L5m` (Model/Dialogue2.lean) has exactly this
granularity.  There

* with TWO objects the full-strength statement "`initialize()` returns only after its own sync reply was
  processed" is FALSE: the `SYS:VERSION` line that ends A's `initialize()` is delivered to B's callback after
  the caller has already begun B's `initialize()` — B returns normally before any of its commands is written
  (known finding);
* with ONE object the barrier holds as in `C06_barrier`. -/
namespace Ynca.C06c
open Ynca.L5 (versionQuery isVersionLine Answer AnswerOk)
open Ynca.L5m

/-- a device that answers the sync query with one `SYS:VERSION` line and everything else with one ordinary line -/
def demoAnswer : Answer := fun q =>
  if q == versionQuery then ["@SYS:VERSION=1.0"] else ["@UNDEFINED"]

/-- two objects A (0) and B (1), constructed, not initialised -/
def init2 : S := init 2

/-- the failing schedule: A.initialize() with one query; both commands written and answered; the first answer
    delivered to A and to B; the `SYS:VERSION` line delivered to A — A.initialize() returns; the caller begins
    B.initialize() (event cleared, two commands queued); the reader goes on delivering THE SAME line to B —
    B.initialize() returns -/
def failingSchedule : List Label :=
  [.begin 0 ["@MAIN:PWR=?"], .write, .write, .consume, .consume, .deliver, .deliver, .deliver, .wake 0,
   .begin 1 ["@ZONE2:PWR=?"], .deliver, .wake 1]

/-- **the multi-object negation witness**: a run of the two-object model after which B's `initialize()` has
    returned normally (`ok`) although its slice of commands is non-empty and NOT EVEN THE FIRST of them has
    been written to the wire -/
theorem C06_multiobject_negation_witness :
    ∃ ls s, run demoAnswer init2 ls = some s ∧
      ∃ b, s.objs[1]? = some b ∧ b.stage = .ok ∧ 0 < b.count ∧ s.written.length ≤ b.first := by
  -- one evaluation of the schedule decides all of it
  have h : (run demoAnswer init2 failingSchedule).any (fun s => s.objs[1]?.any fun b =>
      b.stage == .ok && decide (0 < b.count) && decide (s.written.length ≤ b.first)) = true := by decide +kernel
  obtain ⟨s, hs, h⟩ := (Option.any_eq_true _ _).mp h
  obtain ⟨b, hb, h⟩ := (Option.any_eq_true _ _).mp h
  simp only [Bool.and_eq_true, beq_iff_eq, decide_eq_true_eq] at h
  exact ⟨failingSchedule, s, hs, b, hb, h.1.1, h.1.2, h.2⟩

/-- the device assumption holds for the device of the witness -/
theorem demoAnswer_ok : AnswerOk demoAnswer := by
  constructor
  · intro q hq l hl
    have : l = "@UNDEFINED" := by simpa [demoAnswer, hq] using hl
    subst this; decide +kernel
  · exact ⟨"@SYS:VERSION=1.0", by simp [demoAnswer], by decide +kernel⟩

/-- **barrier, ONE object** (full strength, as `C06_barrier`): in every reachable state of the one-object model,
    under the device assumption `AnswerOk`, when the object's `initialize()` has returned normally, then its
    slice `first ..< first+count` is non-empty and is the tail of everything enqueued; nothing is pending, all of
    it is written and consumed; the reader is between two lines; every answer emitted so far has been delivered;
    the last command of the slice is the sync query, and its reply — a `SYS:VERSION` line — has been delivered -/
theorem C06_single_object_barrier (answer : Answer) (ha : AnswerOk answer) (s : S) (h : Reachable answer 1 s)
    (o : Obj) (ho : s.objs[0]? = some o) (hok : o.stage = .ok) :
    0 < o.count ∧ o.first + o.count = s.enqueued ∧
    s.pending = [] ∧ s.written.length = o.first + o.count ∧ s.consumed = o.first + o.count ∧
    s.deliverIdx = 0 ∧ (∀ e ∈ s.ansEnd, e ≤ s.processed) ∧
    s.written[o.first + o.count - 1]? = some versionQuery ∧
    ∃ e l, s.ansEnd[o.first + o.count - 1]? = some e ∧ 1 ≤ e ∧ e ≤ s.processed ∧
      s.emitted[e - 1]? = some l ∧ isVersionLine l = true := by
  obtain ⟨hk, hi1⟩ := reachable_inv1 answer ha s h o ho
  obtain ⟨hfc, hpos⟩ := hi1.enq (by rw [hok]; nofun)
  obtain ⟨b1, b2, b3, b4, b5⟩ := hk.barrier ha (hi1.bal_rest (.inr hok))
  have hlt : 0 < s.enqueued := hfc ▸ Nat.lt_add_left _ hpos
  rw [hfc]
  exact ⟨hpos, rfl, b3, b2, b1, hi1.didx, b4, b5 hlt⟩

/-- the same at the moment the waiting caller is woken -/
theorem C06_single_object_barrier_waiting (answer : Answer) (ha : AnswerOk answer) (s : S)
    (h : Reachable answer 1 s) (o : Obj) (ho : s.objs[0]? = some o) (first count : Nat)
    (hw : o.stage = .waiting first count) (he : o.event = true) :
    first + count ≤ s.consumed ∧ ∀ i, i < first + count → ∃ e, s.ansEnd[i]? = some e ∧ e ≤ s.processed := by
  obtain ⟨hk, hi1⟩ := reachable_inv1 answer ha s h o ho
  have hv := hi1.bal_set first count hw he
  obtain ⟨rfl, rfl⟩ := hi1.slice first count hw
  rw [(hi1.enq (by rw [hw]; nofun)).1]
  refine ⟨Nat.le_of_eq (hk.barrier ha hv).1.symm, fun i hi => ?_⟩
  have ⟨e, h1, h2, _⟩ := hk.answers_processed ha hv i hi
  exact ⟨e, h1, h2⟩

/-- the one-object model keeps its one object -/
theorem C06_single_object_preserved (answer : Answer) (s : S) (h : Reachable answer 1 s) : s.objs.length = 1 :=
  objs_length answer 1 s h

/-- the two-object witness violates exactly the conclusion of the one-object barrier: for B, `written.length`
    is `first`, not `first + count` -/
example : ∃ s, Reachable demoAnswer 2 s ∧ ∃ b, s.objs[1]? = some b ∧ b.stage = .ok ∧
    s.written.length ≠ b.first + b.count :=
  have ⟨ls, s, hr, b, hb, hok, hc, hw⟩ := C06_multiobject_negation_witness
  ⟨s, ⟨ls, hr⟩, b, hb, hok, by omega⟩

/-! non-vacuity: the one-object model reaches `ok` (twice in a row), with the device of the witness -/
example : ((run demoAnswer (init 1) [.begin 0 ["@MAIN:VOL=?", "@MAIN:PWR=?"], .write, .write, .write, .consume,
    .consume, .deliver, .consume, .deliver, .deliver, .wake 0]).map
      (fun s => (s.objs.map (·.stage), s.processed, s.written.length, s.vl))) = some ([.ok], 3, 3, 1) := by
  decide +kernel

def twiceSchedule : List Label :=
  [.begin 0 ["@MAIN:PWR=?"], .write, .write, .consume, .deliver, .consume, .deliver, .wake 0,
   .begin 0 [], .write, .consume, .deliver, .wake 0]

example : ∃ s o, Reachable demoAnswer 1 s ∧ s.objs[0]? = some o ∧ o.stage = .ok ∧ o.first = 2 ∧ o.count = 1 :=
  have h : (run demoAnswer (init 1) twiceSchedule).any (fun s => s.objs[0]?.any fun o =>
      o.stage == .ok && o.first == 2 && o.count == 1) = true := by decide +kernel
  have ⟨s, hs, h⟩ := (Option.any_eq_true _ _).mp h
  have ⟨o, ho, h⟩ := (Option.any_eq_true _ _).mp h
  ⟨s, o, ⟨_, hs⟩, ho, by simpa [and_assoc] using h⟩

/-- the two-object model, same device, the schedule in which the reader finishes the fan-out before the
    caller goes on: B's `initialize()` then waits for its own reply -/
example : ((run demoAnswer init2 [.begin 0 [], .write, .consume, .deliver, .wake 0, .deliver,
    .begin 1 ["@ZONE2:PWR=?"], .write, .write, .consume, .consume, .deliver, .deliver, .deliver, .deliver,
    .wake 1]).map (fun s => (s.objs.map (·.stage), s.processed, s.written.length))) = some ([.ok, .ok], 3, 3) := by
  decide +kernel

end Ynca.C06c
