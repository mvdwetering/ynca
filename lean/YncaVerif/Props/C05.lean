import YncaVerif.Lemmas.C05
import YncaVerif.Gen.Enums
import YncaVerif.Gen.Functions
/-! # C05 — a write sends exactly one canonical PUT and never touches the cache

`assignOutcome` is the descriptor `__set__` (PUT gate, `converter.to_str`, `_put`), `actionOutcome`
the action methods; `assign`/`act` thread them through the object state (`sent`, `cache`, callbacks).
Canonical texts on the right-hand sides are stated independently of `encode`: the member's wire text
from the table, the text itself, the decimal rendering, C11's grid text. -/
namespace Ynca.C05

/-- enumerated function, a member of its enumeration: the member's wire text -/
theorem C05_put_enum (tbls : List EnumTbl) (c : Cls) (hc : clsOk c = true) (f : Fn) (hf : f ∈ c.fns)
    (hput : f.put = true) (e : String) (hconv : f.conv = .enum e) (t : EnumTbl)
    (ht : findEnum tbls e = some t) (hok : enumOk t = true) (m txt : String) (hm : (m, txt) ∈ t.members) :
    assignOutcome tbls c f.attr (.member e m) = .put f.name txt := by
  rw [assignOutcome_eq tbls hc hf hput, hconv]
  simp [encode, ht, memberText_of_mem hok hm]

/-- text function: the text itself when within the device limits; an error beyond the maximum -/
theorem C05_put_str (tbls : List EnumTbl) (c : Cls) (hc : clsOk c = true) (f : Fn) (hf : f ∈ c.fns)
    (hput : f.put = true) (mx : Nat) (hconv : f.conv = .str (some 0) (some mx)) (s : String) :
    assignOutcome tbls c f.attr (.str s) = if s.length ≤ mx ∨ mx = 0 then .put f.name s else .raises := by
  simp only [assignOutcome_eq tbls hc hf hput, hconv, encode]
  by_cases h : s.length ≤ mx
  · have : ¬ (mx < s.length) := by omega
    simp [h, this]
  · have h' : mx < s.length := by omega
    by_cases h0 : mx = 0 <;> simp [h, h', h0]

/-- unrestricted text function -/
theorem C05_put_str_unlimited (tbls : List EnumTbl) (c : Cls) (hc : clsOk c = true) (f : Fn) (hf : f ∈ c.fns)
    (hput : f.put = true) (hconv : f.conv = .str none none) (s : String) :
    assignOutcome tbls c f.attr (.str s) = .put f.name s := by
  rw [assignOutcome_eq tbls hc hf hput, hconv]; rfl

/-- plain integer function, an `int`: its decimal rendering -/
theorem C05_put_int (tbls : List EnumTbl) (c : Cls) (hc : clsOk c = true) (f : Fn) (hf : f ∈ c.fns)
    (hput : f.put = true) (hconv : f.conv = .int .plain ∨ f.conv = .intOrNone .plain) (n : Int) :
    assignOutcome tbls c f.attr (.int n) = .put f.name (toString n) := by
  rcases hconv with hconv | hconv <;> rw [assignOutcome_eq tbls hc hf hput, hconv] <;> rfl

/-- stepped float function, any finite `float` or `int`: C11's grid text -/
theorem C05_put_stepped (tbls : List EnumTbl) (c : Cls) (hc : clsOk c = true) (f : Fn) (hf : f ∈ c.fns)
    (hput : f.put = true) (d sn sd : Nat) (hsn : sn ≠ 0) (hsd : sd ≠ 0)
    (hconv : f.conv = .float (.stepped d sn sd)) (vn : Int) (vd : Nat) (hvd : vd ≠ 0) :
    assignOutcome tbls c f.attr (.float vn vd) = .put f.name (String.ofList (numberToString vn vd d sn sd)) ∧
    assignOutcome tbls c f.attr (.int vn) = .put f.name (String.ofList (numberToString vn 1 d sn sd)) := by
  constructor <;>
    simp [assignOutcome_eq tbls hc hf hput, hconv, encode, numGuard, applyToStr, hsn, hsd, hvd]

/-- read-only attributes reject assignment of anything -/
theorem C05_readonly (tbls : List EnumTbl) (c : Cls) (hc : clsOk c = true) (f : Fn) (hf : f ∈ c.fns)
    (h : f.put = false) (v : PyVal) : assignOutcome tbls c f.attr v = .attributeError := by
  rw [assignOutcome, findAttr_of_clsOk hc hf]; simp only [h]; rfl

/-- write-only attributes reject reading -/
theorem C05_writeonly (st : SubSt) (hc : clsOk st.cls = true) (f : Fn) (hf : f ∈ st.cls.fns)
    (h : f.get = false) : readAttr st f.attr = .attributeError := by
  rw [readAttr_eq hc hf, h]; rfl

/-- something that is certainly not a number -/
def NotANumber : PyVal → Prop
  | .none => True
  | .other => True
  | .str s => clearlyNotNumeric s = true
  | _ => False

/-- a converter that only accepts numbers -/
def numericOnly : Conv → Bool
  | .int _ => true
  | .intOrNone _ => true
  | .float _ => true
  | .multi cs => go cs
  | _ => false
where go : List Conv → Bool
  | [] => true
  | c :: cs => numericOnly c && go cs

theorem numGuard_notANumber (tbls : List EnumTbl) (v : PyVal) (hv : NotANumber v) :
    numGuard tbls v = .raises := by
  cases v <;> simp_all [NotANumber, numGuard]

mutual
theorem encode_numeric_rejects (tbls : List EnumTbl) : (cv : Conv) → numericOnly cv = true →
    ∀ v : PyVal, NotANumber v → encode tbls cv v = .raises
  | .int _, _, v, hv => by simp [encode, numGuard_notANumber tbls v hv]
  | .intOrNone _, _, v, hv => by simp [encode, numGuard_notANumber tbls v hv]
  | .float _, _, v, hv => by simp [encode, numGuard_notANumber tbls v hv]
  | .multi cs, h, v, hv => by
      simp only [encode]
      exact encodeMulti_numeric_rejects tbls cs (by simpa [numericOnly] using h) v hv
  | .enum _, h, _, _ => by simp [numericOnly] at h
  | .str _ _, h, _, _ => by simp [numericOnly] at h
  | .opaque _, h, _, _ => by simp [numericOnly] at h
theorem encodeMulti_numeric_rejects (tbls : List EnumTbl) : (cs : List Conv) → numericOnly.go cs = true →
    ∀ v : PyVal, NotANumber v → encode.encodeMulti tbls cs v = .raises
  | [], _, _, _ => by simp [encode.encodeMulti]
  | c :: cs, h, v, hv => by
      simp only [numericOnly.go, Bool.and_eq_true] at h
      simp only [encode.encodeMulti, encode_numeric_rejects tbls c h.1 v hv]
      exact encodeMulti_numeric_rejects tbls cs h.2 v hv
end

theorem C05_reject_non_number (tbls : List EnumTbl) (c : Cls) (hc : clsOk c = true) (f : Fn) (hf : f ∈ c.fns)
    (hput : f.put = true) (hnum : numericOnly f.conv = true) (v : PyVal) (hv : NotANumber v) :
    assignOutcome tbls c f.attr v = .raises := by
  rw [assignOutcome_eq tbls hc hf hput, encode_numeric_rejects tbls f.conv hnum v hv]

/-- anything that is not an enumeration member, for an enumerated function -/
theorem C05_reject_non_enum (tbls : List EnumTbl) (c : Cls) (hc : clsOk c = true) (f : Fn) (hf : f ∈ c.fns)
    (hput : f.put = true) (e : String) (hconv : f.conv = .enum e) (v : PyVal)
    (hv : ∀ e' m, v ≠ .member e' m) : assignOutcome tbls c f.attr v = .raises := by
  -- `encode`'s last clause (`.enum _, _ => .raises`) applies: its side condition, that `v` is no member, is `hv`
  simp only [assignOutcome_eq tbls hc hf hput, hconv, encode]

/-- a remote code that is not exactly `len` characters -/
theorem C05_reject_remotecode (tbls : List EnumTbl) (fn : String) (len : Nat) (s : String) (h : s.length ≠ len) :
    actionOutcome tbls (.fixedLen fn len) [.str s] = .raises :=
  if_neg h

theorem C05_remotecode_ok (tbls : List EnumTbl) (fn : String) (len : Nat) (s : String) (h : s.length = len) :
    actionOutcome tbls (.fixedLen fn len) [.str s] = .put fn s :=
  if_pos h

/-- **at most one PUT, nothing on rejection, the cache is never touched** -/
theorem C05_assign_state (tbls : List EnumTbl) (st : SubSt) (attr : String) (v : PyVal) :
    let r := assign tbls st attr v
    r.1.cache = st.cache ∧ r.1.calls = st.calls ∧ r.1.cls = st.cls ∧
    (match r.2 with
     | .put fn t => r.1.sent = if st.closed then st.sent else st.sent ++ [.put st.cls.id fn t]
     | _ => r.1.sent = st.sent) := by
  exact applyWrite_spec st _

/-- the same for action methods -/
theorem C05_act_state (tbls : List EnumTbl) (st : SubSt) (meth : String) (args : List PyVal) :
    let r := act tbls st meth args
    r.1.cache = st.cache ∧ r.1.calls = st.calls ∧ r.1.cls = st.cls ∧
    (match r.2 with
     | .put fn t => r.1.sent = if st.closed then st.sent else st.sent ++ [.put st.cls.id fn t]
     | _ => r.1.sent = st.sent) := by
  unfold act
  cases findAction st.cls meth with
  | none => exact ⟨rfl, rfl, rfl, rfl⟩
  | some a => exact applyWrite_spec st _

def allowedSteps (dir : String) : List String := [dir, dir ++ " 1 dB", dir ++ " 2 dB", dir ++ " 5 dB"]

/-- a step given as any numeric type (int, float, bool): exactly one PUT whose text is `Up`/`Down` or
    `Up N dB`/`Down N dB` with N ∈ {1, 2, 5} -/
theorem C05_steps (tbls : List EnumTbl) (fn : String) (up : Bool) (a : PyVal)
    (hnum : (∃ n, a = .int n) ∨ (∃ n d, a = .float n d) ∨ (∃ b, a = .bool b) ∨ a = .floatNonFinite) :
    ∃ t ∈ allowedSteps (if up then "Up" else "Down"), actionOutcome tbls (.volStep fn up) [a] = .put fn t := by
  have hmem : ∀ dir v, stepText dir v ∈ allowedSteps dir := fun dir v => by
    simpa [allowedSteps] using stepText_cases dir v
  rcases hnum with ⟨n, rfl⟩ | ⟨n, d, rfl⟩ | ⟨b, rfl⟩ | rfl
  · exact ⟨_, hmem _ (some (.int n)), rfl⟩
  · exact ⟨_, hmem _ (some (.float n d)), rfl⟩
  · exact ⟨_, hmem _ (some (.bool b)), rfl⟩
  · exact ⟨_, List.mem_cons_self .., rfl⟩

/-- without an argument: the plain `Up`/`Down` -/
theorem C05_steps_default (tbls : List EnumTbl) (fn : String) (up : Bool) :
    actionOutcome tbls (.volStep fn up) [] = .put fn (if up then "Up" else "Down") := rfl

def actionRecognised : ActionKind → Bool
  | .opaque _ => false
  | _ => true

/-- every action method of every class was recognised by the translator, relative steps exist only for the
    two volume functions, and the remote code length is 8 -/
def actionsOk (cs : List Cls) : Bool :=
  cs.all (fun c => c.actions.all (fun a => actionRecognised a.kind &&
    (match a.kind with
     | .volStep fn _ => fn == "VOL" || fn == "ZONEBVOL"
     | .fixedLen fn len => fn == "REMOTECODE" && len == 8
     | _ => true)))

theorem C05_actions_ok : actionsOk Gen.classes = true := by decide +kernel

/-- text limits of the regenerated tables are the documented device limit (9 characters for zone names) -/
def strLimitsOk (cs : List Cls) : Bool :=
  cs.all (fun c => c.fns.all (fun f => match f.conv with
    | .str mn mx => (f.name == "ZONENAME" || f.name == "ZONEBNAME") && mn == some 0 && mx == some 9 ||
                    (f.name != "ZONENAME" && f.name != "ZONEBNAME") && mn == none && mx == none
    | _ => true))

theorem C05_str_limits_ok : strLimitsOk Gen.classes = true := by decide +kernel

example : assignOutcome Gen.enums Gen.cls_Main "mute" (.member "Mute" "OFF") = .put "MUTE" "Off" := by decide +kernel
example : assignOutcome Gen.enums Gen.cls_Main "zonename" (.str "0123456789") = .raises := by decide +kernel
example : assignOutcome Gen.enums Gen.cls_Main "vol" (.str "abc") = .raises := by decide +kernel
example : assignOutcome Gen.enums Gen.cls_Main "avail" (.member "Avail" "READY") = .attributeError := by decide +kernel
example : actionOutcome Gen.enums (.volStep "VOL" true) [.float 2 1] = .put "VOL" "Up 2 dB" := by decide +kernel
example : actionOutcome Gen.enums (.volStep "VOL" false) [.bool true] = .put "VOL" "Down 1 dB" := by decide +kernel

end Ynca.C05
