import YncaVerif.Lemmas.C16
/-! # C16 — close() is safe at any time, from any thread, any number of times (L4 model) -/
namespace Ynca.C16
open Ynca.L4

/-- **never raises**: no step of any close() (on a caller thread or on the reader thread) raises -/
theorem C16_never_raises (P : Params) (s s' : St) (l : Label) (o : Obs) (t : Tid)
    (h : step P s l = some (s', some o)) : o ≠ .closeRaised t := by
  rintro rfl
  cases step_sound h with
  | s h | r h | c _ _ h => cases h

/-- **accepted in every state by every thread that may call the API** -/
theorem C16_always_accepted (P : Params) (s : St) (t : Tid) (h : mayCall s t = true) :
    (step P s (.callClose t)).isSome = true := by
  simp only [step, h, if_true]; repeat' split
  all_goals rfl

/-- once some close() that found the connection published (`_protocol` assigned) has begun, the disconnect
    callback is cleared for good.  (`closeStarted` is set by the clearing step `c0`; a close() entered while
    `connect()` has not completed skips that step, sets `closeUnpub` instead and is covered by Props/C17x.) -/
theorem C16_callback_cleared (P : Params) (s : St) (h : Reachable P s) (hc : s.closeStarted = true) :
    s.discCbSet = false := by
  -- `c0` is the only rule that writes either field
  refine h.induction (fun s => s.closeStarted = true → s.discCbSet = false) (by simp) ?_ hc
  intro s l s' o _ hi h
  cases h with
  | c _ _ h =>
    cases h with
    | c0 | c0R => exact fun _ => rfl
    | _ => exact hi
  | s h | r h => cases h <;> exact hi
  | _ => exact hi

/-- **no disconnect callback** is ever started while it is cleared -/
theorem C16_no_disc_cb (P : Params) (s s' : St) (l : Label) (o : Obs) (hc : s.discCbSet = false)
    (h : step P s l = some (s', some o)) : o ≠ .discCb := by
  rintro rfl
  cases step_sound h with
  | s h | c _ _ h => cases h
  | r h => cases h with | discCb _ hs => rw [hc] at hs; cases hs

/-- **after it has returned** the transport is closed and the reader has been told to stop -/
theorem C16_after_return (P : Params) (s : St) (h : Reachable P s) (hr : s.closeReturned = true) :
    s.portOpen = false ∧ s.alive = false :=
  (closeInv h).ret hr

/-- **nothing more is written**: with the port closed no write is accepted by the transport -/
theorem C16_no_write_when_closed (P : Params) (s s' : St) (l : Label) (o : Obs) (t : String)
    (hp : s.portOpen = false) (h : step P s l = some (s', some o)) : o ≠ .write t := by
  rintro rfl
  exact no_write_when_closed hp (step_sound h)

/-- the port never reopens -/
theorem C16_port_stays_closed (P : Params) (s s' : St) (l : Label) (o : Option Obs)
    (hp : s.portOpen = false) (h : step P s l = some (s', o)) : s'.portOpen = false :=
  (step_sound h).later.portOpen hp

/-- close() on the reader thread forgets every message callback before it returns, so no message callback
    is started afterwards -/
theorem C16_reader_close_stops_delivery (P : Params) (s s' : St) (l : Label) (cb : Nat) (m : Msg)
    (hc : s.msgCbs = []) (h : step P s l = some (s', some (.msgCb cb m))) : False := by
  obtain ⟨_, _, _, _, hm, _⟩ := (step_sound h).msgCb_inv
  simp [hc] at hm

end Ynca.C16
