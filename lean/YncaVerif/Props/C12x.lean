import YncaVerif.Props.C12
/-! # C12 (extension) — the bound of `C12_gap` is attained (it cannot be improved), time cannot pass beyond it,
and what the library does at that moment is send the probe on its own.  These are also the non-vacuity
witnesses of `Props/C12.lean`: a reachable state that is `Up`, after both start-up probes. -/
namespace Ynca.C12
open Ynca.L4

def demoP : Params := ⟨100, 1000, 2000, 500, 8⟩
/-- connect: the reader runs `connection_made` and blocks in `read`; the protocol is published -/
def demoUp : List Label := [.startR, .r, .r, .r, .r, .r, .r, .publish]
/-- the sender takes one start-up probe: get / flag / log / lock / write / unlock / sleep / wake -/
def demoProbe : List Label := [.s, .s, .s, .s, .s, .s, .tick 100, .s]
/-- nothing is submitted for a whole keep-alive interval: only the reader's read time-outs happen -/
def demoIdle : List Label := [.tick 300, .rGet true, .r, .tick 500, .rGet true, .r, .tick 200]
def demoRun : List Label := demoUp ++ demoProbe ++ demoProbe ++ demoIdle

instance (s : St) : Decidable (Up s) := by unfold Up; infer_instance

/-- the two start-up probes went out at 0 and 100; at time 1200 = 100 + spacing + kaInterval nothing else has
    been sent, the connection is up and the sender's `queue.get` is at its deadline -/
example : (run demoP {} demoRun).map (fun s => (s.now, lastTx s, s.spc, s.wire.map (·.2.1), decide (Up s))) =
    some (1200, 100, .waitGet 1200, [probe, probe], true) := by decide +kernel

/-- **the bound of `C12_gap` is attained**: there is an execution in which the connection is up and exactly
    one command spacing plus one keep-alive interval have passed since the last transmission -/
theorem C12_bound_tight : ∃ s, Reachable demoP s ∧ Up s ∧ s.now = lastTx s + demoP.spacing + demoP.kaInterval := by
  have h : ((run demoP {} demoRun).map (fun s => decide (Up s ∧ s.now = lastTx s + demoP.spacing + demoP.kaInterval))) = some true := by
    decide +kernel
  obtain ⟨s, hr, h⟩ := Option.map_eq_some_iff.1 h
  exact ⟨s, ⟨_, hr⟩, of_decide_eq_true h⟩

/-- **time cannot pass beyond it** (urgency): in that state not even a microsecond may elapse before the sender
    moves … -/
example : run demoP {} (demoRun ++ [.tick 1]) = none := by decide +kernel

/-- … and what the sender does is send `@SYS:MODELNAME=?` on its own (no command id): third line on the wire,
    at time 1200 -/
example : (run demoP {} (demoRun ++ [.s, .s, .s, .s, .s, .s, .s])).map (fun s => (s.wire, decide (Up s))) =
    some ([(0, probe, none), (100, probe, none), (1200, probe, none)], true) := by decide +kernel

/-- the gap bound holds along every continuation of an execution, not just at its end: whatever the labels
    `ls` that follow a reachable state, the bound holds in the state they lead to if the connection is still up -/
theorem C12_gap_along (P : Params) (s s' : St) (ls : List Label) (h : Reachable P s) (hr : run P s ls = some s')
    (hup : Up s') : s'.now ≤ lastTx s' + P.spacing + P.kaInterval :=
  C12_gap P s' (Reachable.run h hr) hup

end Ynca.C12
