import YncaVerif.Lemmas.C17x
import YncaVerif.Props.C15
import YncaVerif.Props.C17
/-! # C17x — close() after a failed connect() (the `finally:` of `connection_check`, L4 model)

`connect()` fails when the link is lost before the connection is set up (label `connectFailed`): `_protocol` is
never assigned but `_readerthread` is.  The `close()` that follows does not clear the disconnect callback
(`if self._protocol:` is false) and runs pyserial's `ReaderThread.close()` in full: take the transport lock,
`alive := False`, `join(2 s)` on the reader thread, `serial.close()`, release the lock.  In the model this is the
branch of `callClose` that enters `close()` at `c1` instead of `c0`; its ghost state is `closeUnpub` (one was
entered), `unpubCloseAt` (when the first one was entered), `unpubClosers` (threads inside one) and
`unpubCloseReturned` (one has returned).  `closeStarted` means "a close() has cleared the callback" and is NOT set on
this path: `C16_callback_cleared` does not apply to it, `C15_exactly_once` does (the callback is invoked, as the implementation does). -/
namespace Ynca.C17
open Ynca.L4 Ynca.L4.C17L

/-- **clean-up after a failed connect**: once a close() entered on the unpublished path has returned, the port
    is closed, the reader has been told to stop, and the reader thread has ended or the 2 s join time-out has
    elapsed since (the first such) close() was called -/
theorem C17_close_after_failed_connect (P : Params) (s : St) (h : Reachable P s)
    (hr : s.unpubCloseReturned = true) :
    s.portOpen = false ∧ s.alive = false ∧ (s.rpc = .done ∨ s.unpubCloseAt + P.joinTimeout ≤ s.now) := by
  obtain ⟨_, hret, hj⟩ := (unpubInv_reachable P s h).ret hr
  obtain ⟨hp, ha⟩ := C16.C16_after_return P s h hret
  exact ⟨hp, ha, hj⟩

/-- this path is taken exactly when `_protocol` is unassigned, the reader thread has been started and the caller
    is not the reader thread; it neither clears the disconnect callback nor counts as a close() that did -/
theorem C17_unpublished_close_entry (P : Params) (s s' : St) (t : Tid) (o : Option Obs)
    (hp : s.published = false) (hr : s.rpc ≠ .notStarted) (ht : t ≠ tidR)
    (h : step P s (.callClose t) = some (s', o)) :
    upcOf s' t = .closing .c1 ∧ s'.closeUnpub = true ∧ s'.discCbSet = s.discCbSet ∧
      s'.closeStarted = s.closeStarted ∧ o = none := by
  cases step_sound h with
  | close _ _ hp' => rw [hp] at hp'; cases hp'
  | closeUnpubR => exact absurd rfl ht
  | closeUnpub => exact ⟨by rw [upcOf_move, if_pos rfl], rfl, rfl, rfl, rfl⟩
  | closeNoReader _ _ _ hr' => exact absurd hr' hr
  | r h => cases h

/-- the same call made on the reader thread itself (from a callback that runs before `connect()` has returned): the
    no-join variant of close(), again without clearing the disconnect callback -/
theorem C17_unpublished_close_entry_on_reader (P : Params) (s s' : St) (o : Option Obs)
    (hp : s.published = false) (h : step P s (.callClose tidR) = some (s', o)) :
    upcOf s' tidR = .closing .r1 ∧ s'.closeUnpub = true ∧ s'.discCbSet = s.discCbSet ∧
      s'.closeStarted = s.closeStarted ∧ o = none := by
  cases step_sound h with
  | close _ _ hp' => rw [hp] at hp'; cases hp'
  | closeUnpubR => exact ⟨by rw [upcOf_move, if_pos rfl], rfl, rfl, rfl, rfl⟩
  | closeUnpub _ _ _ _ ht => exact absurd rfl ht
  | closeNoReader _ hm _ hr => simp [mayCall, hr, readerInCallback] at hm
  | r h => cases h

/-- as long as `connect()` has not completed, no close() has cleared the disconnect callback: it is still set -/
theorem C17_callback_kept_while_unpublished (P : Params) (s : St) (h : Reachable P s) (hp : s.published = false) :
    s.closeStarted = false ∧ s.discCbSet = true := by
  have hc : s.closeStarted = false := by
    cases hcs : s.closeStarted with
    | false => rfl
    | true => have := started_published P s h hcs; simp [hp] at this
  exact ⟨hc, (discInv h).cbSet hc⟩

/-- …so the loss that made `connect()` fail is still reported, exactly once, when the reader thread ends — whether
    or not a close() was called in between (this is what the implementation does: the `disc` event of the real traces) -/
theorem C17_failed_connect_loss_reported (P : Params) (s : St) (h : Reachable P s) (hp : s.published = false)
    (hd : s.rpc = .done) : s.discCalls = 1 :=
  C15.C15_exactly_once P s h hd (C17_callback_kept_while_unpublished P s h hp).1

/-- the link drops at once: the first probe is written at 0, the reader meets the fault, runs `connection_lost`
    (drain, exit marker, join the sender), `connect()` fails and closes the port, the caller (thread 10) calls
    close(); the sender leaves when its command spacing ends at 100 ms, the reader then invokes the disconnect
    callback and ends, and only then does close() return -/
def failedConnectThenClose : List Label :=
  [.startR, .fault, .r, .r, .r, .r, .r,
   .s, .s, .s, .s, .s, .s,
   .r, .rGet false, .r, .connectFailed,
   .callClose 10, .u 10, .u 10,
   .r, .r, .r,
   .tick 100000, .s, .s, .s,
   .r, .r, .cbRet, .r,
   .u 10, .u 10, .u 10, .u 10]

/-- **non-vacuity** (the trace shape observed on the implementation): the close() has returned at 100 ms — not
    at once —, the callback was not cleared and has been invoked once, the reader is done, the port closed -/
example :
    (run P0 {} failedConnectThenClose).map (fun s => decide
      (s.unpubCloseReturned = true ∧ s.published = false ∧ s.closeStarted = false ∧ s.discCalls = 1 ∧
       s.rpc = .done ∧ s.spc = .done ∧ s.portOpen = false ∧ s.alive = false ∧ s.lock = none ∧
       s.unpubCloseAt = 0 ∧ s.now = 100000 ∧ upcOf s 10 = .idle)) = some true := by
  decide +kernel

/-- the sender is stuck behind the transport lock that close() holds: the reader's join of the sender and close()'s
    join of the reader both run into their 2 s time-outs; close() returns while the reader thread is still alive -/
def failedConnectStuckSender : List Label :=
  [.startR, .fault, .r, .r, .r, .r, .r,
   .s, .s, .s,
   .r, .rGet false, .r, .connectFailed,
   .callClose 10, .u 10, .u 10,
   .r, .r, .r,
   .tick 2000000,
   .u 10, .u 10, .u 10, .u 10]

/-- **non-vacuity of the time-out disjunct**: close() has returned at 2 s with the reader still in its own join -/
example :
    (run P0 {} failedConnectStuckSender).map (fun s => decide
      (s.unpubCloseReturned = true ∧ s.published = false ∧ s.rpc = .lostJoin 2000000 ∧
       s.spc = .lockWait probe none ∧ s.portOpen = false ∧ s.alive = false ∧ s.discCbSet = true ∧
       s.unpubCloseAt = 0 ∧ s.now = 2000000)) = some true := by
  decide +kernel

/-- …after which the reader gives up its join and still reports the loss (the `disc` event at 2 s of the real traces) -/
example :
    (run P0 {} (failedConnectStuckSender ++ [.r, .r])).map (fun s => (s.rpc, s.discCalls, s.now)) =
      some (.inDiscCb, 1, 2000000) := by
  decide +kernel

/-- a message callback that runs on the reader thread before `connect()` has returned calls close() -/
def readerClosesBeforePublish : List Label :=
  [.reg 10 1, .startR, .r, .r, .r, .r, .r, .dev reply, .r, .rGet false, .r, .r, .r, .r, .rCb 1,
   .callClose tidR, .u tidR, .u tidR, .u tidR, .u tidR]

/-- **non-vacuity of the reader-thread variant** -/
example :
    (run P0 {} readerClosesBeforePublish).map (fun s => decide
      (s.published = false ∧ s.closeUnpub = true ∧ s.closeStarted = false ∧ s.discCbSet = true ∧
       s.closeReturned = true ∧ s.portOpen = false ∧ s.alive = false ∧ s.msgCbs = [] ∧ s.rcall = .idle ∧
       s.unpubClosers = [] ∧ s.unpubCloseReturned = false)) = some true := by
  decide +kernel

end Ynca.C17
