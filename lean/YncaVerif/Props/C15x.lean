import YncaVerif.Lemmas.C15x
/-! # C15 (extension) — "commands still queued are discarded rather than written later", over whole
    executions of the L4 model

`drainDone r` says that the reader is past the drain loop of `connection_lost` (program counters
`lost 2`, `lostJoin _`, `lost 4`, `lost 5`, `inDiscCb`, `done`).  `s0` is ANY state in which the reader is
not yet past the drain — in particular the state in which the transport failed, but also every later
state up to the last step of the drain loop — and `submittedCmds s0` are the user commands enqueued by
then (ids are unique, `C01_ids_unique`, so a pair `(id, text)` identifies a submission).

What the model does NOT give, and why the statements have this shape:
* while the drain loop runs, the sender thread races with it and may legitimately take a queued command
  and write it (the loop removes one item per step); hence the guarantee starts when the loop is over;
* the sender may already hold one command when the drain finishes (`inflight s.spc`); that one can still
  be written;
* callers can still enqueue after the loss has begun (`put` only looks at `_protocol`); such commands
  have ids `≥ s0.nextId`, they are not "still queued when the transport failed", and if they get in
  before the exit marker the sender does write them. -/
namespace Ynca.C15
open Ynca.L4

/-- **queued commands are discarded**: once the reader is past the drain loop of `connection_lost`, no
    command that had been submitted by the time of `s0` (any state before the end of the drain, e.g. the
    state in which the transport failed) is in the send queue. -/
theorem C15_queued_discarded (P : Params) (s0 s : St) (ls : List Label)
    (h0 : Reachable P s0) (hpre : drainDone s0.rpc = false)
    (hrun : run P s0 ls = some s) (hpost : drainDone s.rpc = true) :
    ∀ c ∈ submittedCmds s0, c ∉ queueCmds s.queue := by
  intro c hc hq
  have h1 := submittedCmds_id_lt h0 c hc
  have h2 := (drained_queue_new hpre hrun hpost).2 c hq
  omega

/-- … and this stays so in every later state (ids are never reused, the drain is never undone) -/
theorem C15_queued_discarded_forever (P : Params) (s0 s s' : St) (ls ls' : List Label)
    (h0 : Reachable P s0) (hpre : drainDone s0.rpc = false)
    (hrun : run P s0 ls = some s) (hpost : drainDone s.rpc = true) (hrun' : run P s ls' = some s') :
    drainDone s'.rpc = true ∧ ∀ c ∈ submittedCmds s0, c ∉ queueCmds s'.queue := by
  have hd : drainDone s'.rpc = true :=
    run_induction (fun s => drainDone s.rpc = true) (fun _ _ _ _ hd h => (drainDone_step h).1 hd) hrun' hpost
  refine ⟨hd, C15_queued_discarded P s0 s' (ls ++ ls') h0 hpre ?_ hd⟩
  rw [run_append, hrun]; simpa using hrun'

/-- **not written later**: after the drain (state `s`) the wire only grows (`s'.wire = s.wire ++ ext`), and
    the commands submitted by the time of `s0` that are written after `s` or are in the sender's hands at
    `s'` form a sub-list of what the sender held at `s` — at most the one command the sender had already
    taken out of the queue. -/
theorem C15_not_written_later (P : Params) (s0 s s' : St) (ls ls' : List Label)
    (h0 : Reachable P s0) (hpre : drainDone s0.rpc = false)
    (hrun : run P s0 ls = some s) (hpost : drainDone s.rpc = true) (hrun' : run P s ls' = some s') :
    ∃ ext, s'.wire = s.wire ++ ext ∧
      ((wireCmds ext ++ inflight s'.spc).filter (fun c => decide (c ∈ submittedCmds s0))).Sublist (inflight s.spc) := by
  obtain ⟨ext, hw, hsub⟩ :=
    wire_growth (drained_queue_new hpre hrun hpost) hrun'
  refine ⟨ext, hw, ?_⟩
  -- "submitted by s0" implies "id below s0.nextId"
  have hlt := submittedCmds_id_lt h0
  have h1 : ((wireCmds ext ++ inflight s'.spc).filter (fun c => decide (c ∈ submittedCmds s0))).Sublist
      (oldC s0.nextId (wireCmds ext ++ inflight s'.spc)) := by
    unfold oldC
    apply filter_sublist_filter
    intro c hc
    simp only [decide_eq_true_eq] at hc ⊢
    exact hlt c hc
  exact (h1.trans hsub).trans (List.filter_sublist)

/-- corollary in plain words: a command submitted by the time of `s0` and written after the drain was in
    the sender's hands when the drain finished, and there is at most one such write -/
theorem C15_at_most_one_late_write (P : Params) (s0 s s' : St) (ls ls' : List Label)
    (h0 : Reachable P s0) (hpre : drainDone s0.rpc = false)
    (hrun : run P s0 ls = some s) (hpost : drainDone s.rpc = true) (hrun' : run P s ls' = some s') :
    ∃ ext, s'.wire = s.wire ++ ext ∧
      (∀ c ∈ wireCmds ext, c ∈ submittedCmds s0 → c ∈ inflight s.spc) ∧
      ((wireCmds ext).filter (fun c => decide (c ∈ submittedCmds s0))).length ≤ 1 := by
  obtain ⟨ext, hw, hsub⟩ := C15_not_written_later P s0 s s' ls ls' h0 hpre hrun hpost hrun'
  rw [List.filter_append] at hsub
  have hsub' := (List.sublist_append_left _ _).trans hsub
  refine ⟨ext, hw, ?_, ?_⟩
  · intro c hc hs
    exact hsub'.subset (List.mem_filter.2 ⟨hc, by simpa using hs⟩)
  · exact Nat.le_trans hsub'.length_le (inflight_length _)

/-- with an idle sender at the end of the drain nothing submitted by `s0` is ever written again -/
theorem C15_nothing_late_if_sender_idle (P : Params) (s0 s s' : St) (ls ls' : List Label)
    (h0 : Reachable P s0) (hpre : drainDone s0.rpc = false)
    (hrun : run P s0 ls = some s) (hpost : drainDone s.rpc = true) (hrun' : run P s ls' = some s')
    (hidle : inflight s.spc = []) :
    ∃ ext, s'.wire = s.wire ++ ext ∧ ∀ c ∈ wireCmds ext, c ∉ submittedCmds s0 := by
  obtain ⟨ext, hw, h1, _⟩ := C15_at_most_one_late_write P s0 s s' ls ls' h0 hpre hrun hpost hrun'
  refine ⟨ext, hw, fun c hc hs => ?_⟩
  have := h1 c hc hs
  rw [hidle] at this; cases this

/-! ### non-vacuity: a command is queued, the link drops, the drain discards it -/
def demoP : Params := ⟨100, 1000, 2000, 500, 8⟩
/-- connect, publish, one caller submits a command, the reader blocks in read -/
def demoUp : List Label :=
  [.startR, .r, .r, .r, .r, .r, .publish, .call 10 "@MAIN:VOL=1", .u 10, .r]
/-- the link drops; the reader notices, drains three items (two probes and the command), finds the queue empty -/
def demoLoss : List Label := [.fault, .rGet false, .r, .r, .r, .r, .r]

example : (run demoP {} demoUp).map (fun s => (drainDone s.rpc, submittedCmds s, queueCmds s.queue)) =
    some (false, [(0, "@MAIN:VOL=1")], [(0, "@MAIN:VOL=1")]) := by decide +kernel
example : (run demoP {} (demoUp ++ demoLoss)).map (fun s => (s.rpc, s.queue)) =
    some (.lost 2, []) := by decide +kernel
example : (run demoP {} (demoUp ++ demoLoss)).map (fun s => (wireCmds s.wire, inflight s.spc)) =
    some ([], []) := by decide +kernel

/-- the bound "at most the one command the sender already holds" is attained: the reader drains the two
    probes, the sender takes the command, the reader finds the queue empty; the sender then writes it -/
def demoRace : List Label := [.fault, .rGet false, .r, .r, .r, .s, .r]
example : (run demoP {} (demoUp ++ demoRace)).map (fun s => (drainDone s.rpc, s.queue, inflight s.spc)) =
    some (true, [], [(0, "@MAIN:VOL=1")]) := by decide +kernel
example : (run demoP {} (demoUp ++ demoRace ++ [.s, .s, .s, .s])).map (fun s => (wireCmds s.wire, inflight s.spc)) =
    some ([(0, "@MAIN:VOL=1")], []) := by decide +kernel

end Ynca.C15
