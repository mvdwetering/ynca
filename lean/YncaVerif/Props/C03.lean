import YncaVerif.Lemmas.Subunit
import YncaVerif.Gen.Functions
/-! # C03 — an attribute always reads the decoding of the last value the device reported

History = any list of messages as the connection hands them to message callbacks (all subunits,
modelled or not, error replies interleaved).  `ex` is Python's behaviour on exotic numeric syntax
(an arbitrary parameter).  Statements are for every class table satisfying the decidable
well-formedness `clsOk` (distinct attribute names, distinct protocol names), discharged on the
regenerated tables by `C03_tables_ok`. -/
namespace Ynca.C03

/-- what message `m` reports for function `f` of class `c`: a decoded value, or nothing
    (error status, other subunit, other function, missing or undecodable value) -/
abbrev reports := @Ynca.reports

/-- the most recent report for `f` in history `h` (oldest first) -/
abbrev lastReported := @Ynca.lastReported

/-- **C03**: after any history, reading attribute `f` returns the decoding of the most recent value
    reported for exactly that subunit and function, or `None` if there is none -/
theorem C03_read_is_last (tbls : List EnumTbl) (ex : Exotic) (c : Cls) (hc : clsOk c = true)
    (f : Fn) (hf : f ∈ c.fns) (hget : f.get = true) (h : List Msg) :
    readAttr (h.foldl (recv tbls ex) (SubSt.new c)) f.attr = .value (lastReported tbls ex c f h) := by
  have hcls : (h.foldl (recv tbls ex) (SubSt.new c)).cls = c := foldl_recv_cls ..
  rw [readAttr_eq (hcls.symm ▸ hc) (hcls.symm ▸ hf), hget, if_pos rfl,
    foldl_recv_cacheGet (st := SubSt.new c) h (findFn_of_clsOk hc hf) rfl]
  exact congrArg _ (Option.or_none ..)

/-- **no crosstalk**: a message with an error status, for another subunit, for a function the class
    does not model, or without a value leaves the whole cache unchanged -/
theorem C03_no_crosstalk (tbls : List EnumTbl) (ex : Exotic) (st : SubSt) (m : Msg)
    (h : m.status ≠ .ok ∨ m.subunit ≠ some st.cls.id ∨ m.value = none ∨
         (∀ f, m.fn = some f → findFn st.cls f = none)) :
    (recv tbls ex st m).cache = st.cache := by
  cases hcl : st.closed
  case true => rw [recv_of_closed tbls ex hcl]
  rw [recv_cache tbls ex hcl]
  split
  · rename_i hr
    obtain ⟨h1, h2, h3, v, fn, h4, h5, -⟩ := report_eq_some.mp hr
    rcases h with h | h | h | h
    · exact absurd h1 h
    · exact absurd h2 h
    · rw [h4] at h; cases h
    · rw [h _ h3] at h5; cases h5
  · rfl

/-- **reads and device messages transmit nothing** (`readAttr` is a pure function of the state; the
    message handler never appends to `sent`) -/
theorem C03_nothing_sent (tbls : List EnumTbl) (ex : Exotic) (st : SubSt) (h : List Msg) :
    (h.foldl (recv tbls ex) st).sent = st.sent := by
  obtain ⟨_, _, _, e⟩ := foldl_recv_frame tbls ex st h; rw [e]

/-- every regenerated class table is well formed -/
theorem C03_tables_ok : Gen.classes.all clsOk = true := by decide +kernel

example : ∃ c ∈ Gen.classes, ∃ f ∈ c.fns, f.get = true ∧ f.name = "VOL" := by decide +kernel
end Ynca.C03
