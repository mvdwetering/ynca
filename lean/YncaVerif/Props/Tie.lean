import YncaVerif.Lemmas.AcceptC16
import YncaVerif.Lemmas.AcceptC12
import YncaVerif.Props.C01
import YncaVerif.Props.C08
import YncaVerif.Props.C12
import YncaVerif.Props.C15
import YncaVerif.Lemmas.C16
import YncaVerif.Lemmas.C20
/-! # The tie itself, as theorems

The B2 correspondence offers every observable trace of the real library to the compiled acceptor
(`Model/Accept.lean`).  These theorems say what an `ACCEPT` verdict means: the trace is explained by an
execution of the L4 model (inputs, visible outputs and their times exactly as observed), hence every theorem
about reachable states of the model applies to what was observed on the implementation.  Six of them are
carried through to statements about the observed events alone. -/
namespace Ynca.Tie
open Ynca.L4

/-- **soundness of the acceptor**: an accepted trace is explained by a model execution -/
theorem Tie_accept_sound (P : Params) (hidden : List String) (evs : List (Nat × Ev))
    (h : (accept P hidden evs).accepted = true) : ∃ s, Expl P hidden evs s := by
  have hG : Good P hidden [] [({} : St)] := fun x hx => by
    cases List.mem_singleton.mp hx
    exact ⟨{}, rfl, .init⟩
  simpa using accept_go_sound evs [] [{}] 0 1 (by simp) hG h

/-- the explaining execution ends in a reachable state of the model, so every L4 invariant holds there -/
theorem Tie_explained_is_reachable (P : Params) (hidden : List String) (evs : List (Nat × Ev)) (s : St)
    (h : Expl P hidden evs s) : Reachable P s :=
  h.reachable

/-- the acceptor's erasure of ghost history is a bisimulation: states with the same visible part take the same steps -/
theorem Tie_erasure_is_bisimulation (P : Params) (a b b' : St) (l : Label) (o : Option Obs) (h : strip P a = strip P b)
    (hs : step P b l = some (b', o)) : ∃ a', step P a l = some (a', o) ∧ strip P a' = strip P b' :=
  strip_congr h hs

/-- **C08 on the observed trace**: in every trace the acceptor accepts (with writes visible) the observed
    `write` events are at least `P.spacing` apart -/
theorem Tie_C08_observed_spacing (P : Params) (hidden : List String) (evs : List (Nat × Ev))
    (hv : hidden.contains "write" = false) (h : (accept P hidden evs).accepted = true) :
    Spaced P.spacing ((traceWrites evs).map (·.1)) := by
  obtain ⟨s, he⟩ := Tie_accept_sound P hidden evs h
  have := C08.C08_spacing P s he.reachable
  rw [he.writes hv]
  have e : (wireTT s).map (·.1) = wireTimes s := by simp [wireTimes, wireTT, Function.comp_def]
  rw [e]; exact this

/-- **C15 on the observed trace**: in every accepted trace (disconnect callbacks visible) the disconnect callback is
    invoked at most once -/
theorem Tie_C15_observed_at_most_once (P : Params) (hidden : List String) (evs : List (Nat × Ev))
    (hv : hidden.contains "disc" = false) (h : (accept P hidden evs).accepted = true) :
    traceDiscs evs ≤ 1 := by
  obtain ⟨s, he⟩ := Tie_accept_sound P hidden evs h
  rw [he.discs hv]
  exact C15.C15_at_most_once P s he.reachable

/-- **C01 on the observed trace** (text unchanged, nothing invented): in every accepted trace (writes visible) every written line
    is the keep-alive probe or the unchanged text of a command some caller handed to put / get / raw earlier in the trace -/
theorem Tie_C01_observed_texts (P : Params) (hidden : List String) (evs : List (Nat × Ev))
    (hv : hidden.contains "write" = false) (h : (accept P hidden evs).accepted = true) :
    ∀ w ∈ traceWrites evs, w.2 = probe ∨ w.2 ∈ traceCalls evs := by
  obtain ⟨s, he⟩ := Tie_accept_sound P hidden evs h
  intro w hw
  rw [he.writes hv] at hw
  simp only [wireTT, List.mem_map] at hw
  obtain ⟨e, hew, rfl⟩ := hw
  cases hid : e.2.2 with
  | none => exact Or.inl (C01.C01_only_probes_else P s he.reachable e hew hid)
  | some i =>
    right
    have hmem : (i, e.2.1) ∈ wireCmds s.wire := by
      simp only [wireCmds, List.mem_filterMap]
      exact ⟨e, hew, by simp [hid]⟩
    have hsub := C01.C01_sublist P s he.reachable
    have : (i, e.2.1) ∈ submittedCmds s :=
      hsub.subset (List.mem_append_left _ (List.mem_append_left _ hmem))
    simp only [submittedCmds, List.mem_map] at this
    obtain ⟨e', he', heq⟩ := this
    have := he.submInv.1 e' he'
    simp only [Prod.mk.injEq] at heq
    rw [← heq.2]; exact this

/-- **C16 on the observed trace** (nothing more is written): in every accepted trace (writes and call returns visible), once a
    `close()` that was begun after the reader thread had been started has returned — `(scan pre).closed`, a plain scan of the events
    before — no write is observed any more -/
theorem Tie_C16_observed_no_write_after_close (P : Params) (hidden : List String) (evs : List (Nat × Ev))
    (hw : hidden.contains "write" = false) (hr : hidden.contains "ret" = false) (h : (accept P hidden evs).accepted = true)
    (pre rest : List (Nat × Ev)) (tm : Nat) (x : String) (he : evs = pre ++ (tm, Ev.output (.write x)) :: rest) :
    (scan pre).closed = false := by
  obtain ⟨s, hs⟩ := Tie_accept_sound P hidden evs h
  obtain ⟨s0, hpre, _, hlast⟩ := (he ▸ hs).at_event
  obtain ⟨l, s1, hstep⟩ := hlast hw
  cases hc : (scan pre).closed with
  | false => rfl
  | true =>
    have hret := (hpre.scanInv hr).closed hc
    exact (no_write_when_closed ((closeInv hpre.reachable).ret hret).1 hstep).elim

/-- **C12 on the observed trace** (the receiver never sees a long silence): in every accepted trace (writes visible), as long as
    nothing went wrong so far — no link fault, no write fault, no `close()` among the events before — every observed event (a
    write, a callback, the end of the observation) lies within one keep-alive interval plus one command spacing of the last observed
    write -/
theorem Tie_C12_observed_gap (P : Params) (hidden : List String) (evs : List (Nat × Ev))
    (hw : hidden.contains "write" = false) (h : (accept P hidden evs).accepted = true)
    (pre rest : List (Nat × Ev)) (tm : Nat) (e : Ev) (he : evs = pre ++ (tm, e) :: rest)
    (hq : quiet pre = true) (hne : traceWrites pre ≠ []) :
    tm ≤ ((traceWrites pre).getLast hne).1 + P.spacing + P.kaInterval := by
  obtain ⟨s, hs⟩ := Tie_accept_sound P hidden evs h
  obtain ⟨s0, hpre, rfl, _⟩ := (he ▸ hs).at_event
  have hH := hpre.healthy hq
  have hwr := hpre.writes hw
  have hspc : s0.spc ≠ .notStarted := fun hc =>
    hne (by rw [hwr, wireTT, (earlyInv hpre.reachable).noWire hc]; rfl)
  have hgap := C12.C12_gap P s0 hpre.reachable
    ⟨hspc, hH.notDone, hH.notDead, hH.loss, hH.closeStarted, hH.closeUnpub, hH.writeFault, hH.portOpen⟩
  rwa [lastTx_of_wire hwr hne] at hgap

/-- **C20 on the observed trace** (bounded, and faithful for what was sent): in every accepted trace (writes visible) a log snapshot
    holds at most `P.logSize` entries, and its `Send` entries are the END of the sequence "every line written so far, in
    transmission order, plus at most one line that is logged but not yet written" — nothing invented, nothing reordered, nothing
    skipped in between -/
theorem Tie_C20_observed_snapshot (P : Params) (hidden : List String) (evs : List (Nat × Ev))
    (hw : hidden.contains "write" = false) (h : (accept P hidden evs).accepted = true)
    (pre rest : List (Nat × Ev)) (tm : Nat) (es : List LogEntry) (he : evs = pre ++ (tm, Ev.snapshot es) :: rest) :
    es.length ≤ P.logSize ∧
    ∃ extra, extra.length ≤ 1 ∧ snapshotSends es <:+ (traceWrites pre).map (·.2) ++ extra := by
  obtain ⟨s, hs⟩ := Tie_accept_sound P hidden evs h
  obtain ⟨s0, hpre, _, hring⟩ := (he ▸ hs).at_event
  cases hring
  refine ⟨ring_length _ _, ?_⟩
  obtain ⟨extra, hex, hlen⟩ := sends_faithful hpre.reachable
  refine ⟨extra, hlen, ?_⟩
  have hsuf : snapshotSends (logRing P s0) <:+ logSends s0 := by
    unfold snapshotSends logSends logRing
    exact (ring_suffix _ _).filterMap _
  have hwt : wireTexts s0 = (traceWrites pre).map (·.2) := by
    rw [hpre.writes hw]; simp [wireTexts, wireTT, Function.comp_def]
  rw [← hwt, ← hex]; exact hsuf

/-! non-vacuity: the acceptor accepts the start of a real session (reader started, two probes 100 ms apart)
and rejects the same trace with the second probe 50 ms early -/
def P0 : Params := ⟨100000, 30000000, 2000000, 1000000, 0⟩
def hid : List String := ["read", "clock", "enq", "ret", "exit"]
def good : List (Nat × Ev) :=
  [(0, .input .startR), (0, .output (.write probe)), (100000, .output (.write probe))]
def bad : List (Nat × Ev) :=
  [(0, .input .startR), (0, .output (.write probe)), (50000, .output (.write probe))]

example : (accept P0 hid good).accepted = true ∧ (accept P0 hid bad).accepted = false := by decide +kernel
example : (traceWrites good).map (·.1) = [0, 100000] := by decide
example : quiet good = true ∧ traceWrites good ≠ [] := by decide
/-- the scan recognises a returned close(): reader started, close() called by thread 10, its return observed -/
example : (scan [(0, .input .startR), (5, .input (.callClose 10)), (7, .output (.callRet 10))]).closed = true := by decide

end Ynca.Tie
