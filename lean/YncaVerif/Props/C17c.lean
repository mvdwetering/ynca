import YncaVerif.Lemmas.ConnCheck
import YncaVerif.Gen.Consts
/-! # C17 at message level — what `connection_check()` returns, for every device

`Model/ConnCheck.lean` (L5c) is tied to the code by executing it on the protocol events of real scheduled runs
(`harness/conncheck.py`: every run's outcome must be the model's).  Here the property is decided on that model:

* **partial, proved for every device and every interleaving of the caller with the two library threads**: when each reply is
  handled before the next command is taken out of the send queue (latency below the command spacing; first probe answered or
  swallowed), the result is exactly the model name of the reply to the check's own query and the zones whose `AVAIL` replies the
  device sent — or the connection error, and that only by time-out (`C17c_fast_result`, `C17c_error_only_at_deadline`);
* **the full statement is false, for every device that has a zone**: with both start-up probes taken before the first reply is
  handled, the reply to the second probe sets the event with an empty zone list (`C17c_slow_every_device`) — the recorded finding. -/
namespace Ynca.C17c
open Ynca.CC

/-- **fast replies, any device, any interleaving**: in a run in which the wait ends by the event, the reply to the check's own
    query has been handled by then (nothing of the dialogue is still to come), and the result is the model name of that reply with
    exactly the zones whose `AVAIL` replies the device sent -/
theorem C17c_fast_result (T : Nat) (l1 l2 : List Label) (s : St)
    (mn1 : Option String) (mn2 : String) (ans : List String) (mn3 n1 n2 n3 : String)
    (h1 : ∀ l, mn1 = some l → IsMnLine n1 l) (h2 : IsMnLine n2 mn2) (hn : ∀ a ∈ ans, isMn a = false) (h3 : IsMnLine n3 mn3)
    (hrun : run T {} (l1 ++ Label.wake :: l2) = some s)
    (hE : l1.filter isCW ++ l2.filter isCW = fastCore mn1 mn2 ans mn3) :
    l2.filter isCW = [] ∧ s.outcome = some (Outcome.ok n3 (zonesOf ans)) := by
  rw [run_eq_foldlM, List.foldlM_append] at hrun
  obtain ⟨s1, hr1, hrun⟩ := Option.bind_eq_some_iff.mp hrun
  rw [List.foldlM_cons] at hrun
  obtain ⟨s2, hw, hr2⟩ := Option.bind_eq_some_iff.mp hrun
  rw [← run_eq_foldlM] at hr1 hr2
  have hd1 : dOf s1 = (l1.filter isCW).foldl dStep d0 := dOf_run hr1
  -- the wake step is enabled only with the event set
  cases step_sound hw with
  | wake dl hd ho he =>
  have hpost := fast_event_needs_all mn1 mn2 ans mn3 n1 n2 h1 h2 hn _ _ hE (hd1 ▸ he)
  refine ⟨hpost, ?_⟩
  rw [hpost, List.append_nil] at hE
  rw [hE, fold_fastCore mn1 mn2 ans mn3 n1 n2 n3 h1 h2 hn h3] at hd1
  have hd2 := dOf_run hr2
  rw [hpost] at hd2
  rw [show s.outcome = _ from congrArg D.outcome hd2, show s1.modelname = n3 from congrArg D.modelname hd1,
    show s1.zones = zonesOf ans from congrArg D.zones hd1]
  rfl

/-- a wait that ends by time-out yields the connection error, whatever was received -/
theorem C17c_timeout_is_error (T : Nat) (s s' : St) (h : step T s .timeout = some s') : s'.outcome = some .error := by
  cases step_sound h; rfl

/-- the error outcome needs the deadline: it is raised only when the time-out has expired … -/
theorem C17c_error_only_at_deadline (T : Nat) (ls : List Label) (s : St) (hrun : run T {} ls = some s)
    (he : s.outcome = some .error) : ∃ dl, s.deadline = some dl ∧ dl ≤ s.now :=
  (tinv_run hrun).error_late he

/-- … and a waiting caller never sleeps past its deadline (nor past the event): the wait ends at the event or exactly at the
    time-out -/
theorem C17c_wait_is_bounded (T : Nat) (ls : List Label) (s : St) (hrun : run T {} ls = some s)
    (dl : Nat) (hd : s.deadline = some dl) (ho : s.outcome = none) (he : s.event = false) : s.now ≤ dl :=
  (tinv_run hrun).urgent dl hd ho he

/-- **negation of the full statement, for every device**: both probes taken before the first reply is handled -/
theorem C17c_slow_every_device (T : Nat) (ls : List Label) (s : St) (mn1 mn2 n1 n2 : String)
    (h1 : IsMnLine n1 mn1) (h2 : IsMnLine n2 mn2) (hrun : run T {} ls = some s)
    (hf : ls.filter isCW = [Label.probe, Label.probe, Label.line mn1, Label.line mn2, Label.wake]) :
    s.outcome = some (Outcome.ok n2 []) := by
  have hd := dOf_run hrun
  rw [hf] at hd
  exact congrArg D.outcome (hd.trans (fold_slow mn1 mn2 n1 n2 h1 h2))

/-- … and in that situation the caller cannot wait any longer: with the event set the clock does not advance before the wake -/
theorem C17c_event_is_urgent (T : Nat) (s : St) (dl d : Nat) (hd : s.deadline = some dl) (ho : s.outcome = none)
    (he : s.event = true) : step T s (.tick d) = none := by
  simp [step, hd, ho, he]

/-! ### non-vacuity: the hypotheses are met by real lines, and the time-out is the one in the source -/
example : IsMnLine "RX-V473" "@SYS:MODELNAME=RX-V473" := by unfold IsMnLine; decide +kernel
example : isMn "@MAIN:AVAIL=Ready" = false ∧ isMn "@RESTRICTED" = false := by decide +kernel
example : zonesOf ["@MAIN:AVAIL=Ready", "@RESTRICTED", "@ZONE3:AVAIL=Not Ready", "@UNDEFINED"] = ["MAIN", "ZONE3"] := by decide +kernel

def mn : String := "@SYS:MODELNAME=RX-V473"
/-- a concrete fast run: replies 50 ms after each command, the caller waits from time 0 -/
def fastRun : List Label :=
  [.probe, .wait, .tick 50000, .line mn, .tick 50000, .probe, .tick 50000, .line mn, .tick 100000, .line "@MAIN:AVAIL=Ready",
   .tick 100000, .line "@RESTRICTED", .tick 100000, .line "@ZONE3:AVAIL=Ready", .tick 100000, .line "@UNDEFINED", .tick 100000,
   .line mn, .wake]
example : (run Gen.ccTimeoutUs {} fastRun).map (·.outcome) = some (some (.ok "RX-V473" ["MAIN", "ZONE3"])) := by decide +kernel
/-- the same receiver answering after 150 ms: empty zone list -/
def slowRun : List Label :=
  [.probe, .wait, .tick 100000, .probe, .tick 50000, .line mn, .tick 100000, .line mn, .wake]
example : (run Gen.ccTimeoutUs {} slowRun).map (·.outcome) = some (some (.ok "RX-V473" [])) := by decide +kernel
/-- no reply at all: the error, exactly at the deadline -/
example : (run Gen.ccTimeoutUs {} [.probe, .wait, .tick 100000, .probe, .tick 1400000, .timeout]).map (fun s => (s.outcome, s.now)) =
    some (some .error, 1500000) := by decide +kernel
example : run Gen.ccTimeoutUs {} [.probe, .wait, .tick 100000, .probe, .tick 1300000, .timeout] = none := by decide +kernel
example : run Gen.ccTimeoutUs {} [.probe, .wait, .tick 100000, .probe, .tick 1400001] = none := by decide +kernel

end Ynca.C17c
