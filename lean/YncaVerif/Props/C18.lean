import YncaVerif.Lemmas.Server
import YncaVerif.Gen.ServerTables
/-! # C18 — the test server replays what the recorded receiver said (L6 model of `ynca/server.py`) -/
namespace Ynca.C18
open Ynca.Srv

/-- a value line: `@S:F=V` with `V ≠ "?"`, handled as data by `fill_from_file` -/
abbrev IsValueLine := @Ynca.Srv.IsValueLine

/-- **last value wins**: after a value line the store answers with exactly that value for that key, every other key is untouched -/
theorem C18_ingest_value (st : Store) (cmd : Option Cmd) (raw : String) (c : Cmd) (h : IsValueLine cmd raw c) :
    getData (ingestLine (st, cmd) raw).1 c.subunit c.function = c.value ∧
    ∀ s f, (s, f) ≠ (c.subunit, c.function) → getData (ingestLine (st, cmd) raw).1 s f = getData st s f := by
  obtain ⟨h1, h2, h3⟩ := h
  rw [ingestLine_command st cmd raw (h3.imp_right fun h => by rw [h.1, h.2]; rfl), h1]
  simp only [bne_iff_ne.2 h2, if_true, getData_addData, true_and]
  exact fun s f hne => if_neg hne

/-- **errors never overwrite values**: whatever the line, a key that holds a proper value keeps it unless the line is a value line for that key -/
theorem C18_ingest_keeps_values (st : Store) (cmd : Option Cmd) (raw : String) (s f : String)
    (hv : isError (getData st s f) = false)
    (hn : ∀ c, lineToCommand (cleanLine raw) = some c → (c.subunit, c.function) ≠ (s, f)) :
    getData (ingestLine (st, cmd) raw).1 s f = getData st s f := by
  rcases ingestLine_frame st cmd raw s f with h | ⟨c, hc, hk⟩ | h
  · exact h
  · exact absurd hk (hn c hc)
  · rw [h] at hv; cases hv

/-- functions with special coupling in the handlers (by name), from the statement plus the handlers' tables -/
abbrev specialName := @Ynca.Srv.specialName

/-- an ordinary PUT: no special function, not a relative step on a volume function, not an error-marker text -/
abbrev OrdinaryPut := @Ynca.Srv.OrdinaryPut

/-- **GET**: the stored value as one well-formed line, or one error line when there is none; the store is not modified -/
theorem C18_get_ordinary (T : Tables) (st : Store) (s f : String) (hf : specialName T f = false) :
    handleGet T.multi st s f =
      (if isError (getData st s f) then [getData st s f] else [valueLine s f (getData st s f)]) := by
  obtain ⟨_, h2, h3, _, _, _, h7, h8, h9, _⟩ := specialName_false hf
  simp [handleGet, multiTable, h9, handleGet1, h2, h3, h7, h8, sendStored_fst]

/-- **PUT of a new value** to a stored key: stored, reported back exactly once, returned by later GETs; other keys untouched -/
theorem C18_put_new (T : Tables) (va : VolArith) (st : Store) (s f v : String) (ho : OrdinaryPut T f v)
    (hk : hasKey st s f = true) (hne : getData st s f ≠ v) :
    (handlePut T va st s f v).2 = [valueLine s f v] ∧
    getData (handlePut T va st s f v).1 s f = v ∧
    ∀ s' f', (s', f') ≠ (s, f) → getData (handlePut T va st s f v).1 s' f' = getData st s' f' := by
  rw [handlePut_ordinary T va st s f v ho, if_pos hk, if_neg hne]
  exact ⟨rfl, (getData_addData ..).trans (if_pos rfl), fun s' f' h => (getData_addData ..).trans (if_neg h)⟩

/-- **PUT of the current value**: no report, nothing changes -/
theorem C18_put_same (T : Tables) (va : VolArith) (st : Store) (s f v : String) (ho : OrdinaryPut T f v)
    (hk : hasKey st s f = true) (heq : getData st s f = v) :
    (handlePut T va st s f v).2 = [] ∧ ∀ s' f', getData (handlePut T va st s f v).1 s' f' = getData st s' f' := by
  rw [handlePut_ordinary T va st s f v ho, if_pos hk, if_pos heq]
  refine ⟨rfl, fun s' f' => (getData_addData ..).trans ?_⟩
  split
  · rename_i h; cases h; exact heq.symm
  · rfl

/-- **PUT to a key the store does not have**: one error line, nothing changes -/
theorem C18_put_unknown (T : Tables) (va : VolArith) (st : Store) (s f v : String) (ho : OrdinaryPut T f v)
    (hk : hasKey st s f = false) :
    (∃ e, (handlePut T va st s f v).2 = [e] ∧ isError e = true) ∧ (handlePut T va st s f v).1 = st := by
  rw [handlePut_ordinary T va st s f v ho, hk]
  exact ⟨⟨_, rfl, by rw [isError_putData, hk]; rfl⟩, rfl⟩

/-- `@S:F=V`, or one of the two error markers -/
abbrev WellFormed := @Ynca.Srv.WellFormed

/-- every reply to a GET is a well-formed YNCA line -/
theorem C18_get_wellformed (T : Tables) (st : Store) (s f : String) :
    ∀ l ∈ handleGet T.multi st s f, WellFormed l :=
  fun l hl => (handleGet_getLine T.multi st s f l hl).wellFormed

/-- every reply to a PUT is a well-formed YNCA line or the crash marker -/
theorem C18_put_wellformed (T : Tables) (va : VolArith) (st : Store) (s f v : String) :
    ∀ l ∈ (handlePut T va st s f v).2, WellFormed l ∨ l = crashMarker :=
  fun l hl => ((handlePut_reply T va st s f v).lines_ok l hl).imp_right And.left

/-- every value line a GET produces carries a value the store holds for that subunit (or the STRAIGHT override `On`) -/
theorem C18_get_only_stored (T : Tables) (st : Store) (s f : String) :
    ∀ l ∈ handleGet T.multi st s f, isError l = true ∨
      (∃ g, l = valueLine s g (getData st s g) ∧ isError (getData st s g) = false) ∨
      l = valueLine s "STRAIGHT" "On" :=
  handleGet_getLine T.multi st s f

/-- **multi-name queries answer with stored members only, or with one error line — never both** (`INPNAME`, `SCENENAME`): the
    reply is exactly `[@UNDEFINED]`, or it is non-empty and contains no error line -/
theorem C18_names_members_xor_error (T : Tables) (st : Store) (s : String)
    (h1 : multiTable T.multi "INPNAME" = none) (h2 : multiTable T.multi "SCENENAME" = none) :
    MembersXorError (handleGet T.multi st "SYS" "INPNAME") ∧ MembersXorError (handleGet T.multi st s "SCENENAME") := by
  simp only [handleGet, h1, h2]
  exact ⟨handleGet1_names st _ _ false 2 (.inl ⟨rfl, rfl⟩), handleGet1_names st s _ false 2 (.inr rfl)⟩

/-- the hypotheses hold for the tables of the source (regenerated on every run) -/
theorem C18_name_groups_not_in_multi_table :
    multiTable Gen.multiTable "INPNAME" = none ∧ multiTable Gen.multiTable "SCENENAME" = none := by decide

end Ynca.C18
