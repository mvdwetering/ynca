import YncaVerif.Lemmas.Server
import YncaVerif.Gen.Recordings
/-! # C19 — no client command can make the test server drop the session (L6 model)

Every handler of the model is a total function; the single place where the source can still raise
(`[...][0]` on an empty list in the PLAYBACK coupling) is explicit as the pseudo output `crashMarker`. -/
namespace Ynca.C19
open Ynca.Srv

/-- no zone of the store has a `PLAYBACK` key -/
abbrev NoZonePlayback := @Ynca.Srv.NoZonePlayback

/-- **no command crashes the handler** on such a store … -/
theorem C19_no_crash (T : Tables) (va : VolArith) (st : Store) (h : NoZonePlayback T st) (line : String) :
    crashMarker ∉ (handleCommand T va st line).2 :=
  fun hm => ((handleCommand_reply T va st line).lines_ok _ hm).elim (fun hw => hw.ne_crash rfl) (fun hc => hc.2 h)

/-- … and the handlers never add or remove keys, so the predicate holds for the whole session -/
theorem C19_keys_invariant (T : Tables) (va : VolArith) (st : Store) (line : String) (s f : String) :
    hasKey (handleCommand T va st line).1 s f = hasKey st s f :=
  (handleCommand_reply T va st line).keys s f

theorem C19_session (T : Tables) (va : VolArith) (st : Store) (h : NoZonePlayback T st) (lines : List String) :
    NoZonePlayback T (lines.foldl (fun st l => (handleCommand T va st l).1) st) ∧
    ∀ pre l post, lines = pre ++ l :: post →
      crashMarker ∉ (handleCommand T va (pre.foldl (fun st l => (handleCommand T va st l).1) st) l).2 := by
  have inv (ls : List String) : NoZonePlayback T (ls.foldl (fun st l => (handleCommand T va st l).1) st) :=
    List.foldlRecOn ls _ h fun st h l _ z hz => (C19_keys_invariant T va st l z _).trans (h z hz)
  exact ⟨inv lines, fun pre l _ _ => C19_no_crash T va _ (inv pre) l⟩

/-- none of the 12 bundled recordings contains a `PLAYBACK` line for a zone (regenerated fact), hence the stores
    ingested from them have no such key -/
theorem C19_recordings_no_zone_playback : Gen.recZonePlayback = [] := by decide

/-- **relative steps only for the two volume functions**: for every other function the handler never consults the
    volume arithmetic — `Up…`/`Down…` are values like any other, and `Up` and `Down` are treated identically -/
theorem C19_relative_only_volume (T : Tables) (va va' : VolArith) (st : Store) (s f v : String)
    (hf : f ≠ "VOL" ∧ f ≠ "ZONEBVOL") : handlePut T va st s f v = handlePut T va' st s f v :=
  handlePut_of_no_step T va va' st s f v fun h => (h.elim hf.1 hf.2).elim

/-- the arithmetic is attempted only for values that start with `Up` or `Down` -/
theorem C19_relative_needs_updown (T : Tables) (va va' : VolArith) (st : Store) (s f v : String)
    (hv : v.startsWith "Up" = false ∧ v.startsWith "Down" = false) : handlePut T va st s f v = handlePut T va' st s f v :=
  handlePut_of_no_step T va va' st s f v fun _ => by
    simp only [relStep, hv.1, hv.2, Bool.or_false, Bool.false_eq_true, if_false]

end Ynca.C19
