import YncaVerif.Props.C13
/-! # C13 (extension) — the three statements of `Props/C13.lean` as one equivalence, and executions of the
model that meet their hypotheses (non-vacuity): a MODELNAME line that follows a start-up probe is withheld,
and the next MODELNAME line — no probe started since — is delivered. -/
namespace Ynca.C13
open Ynca.L4

/-- **exactly**: a received line is withheld if and only if it is a `SYS:MODELNAME` line and a probe was
    started since the previous line was processed — for every line of every execution -/
theorem C13_withheld_iff (P : Params) (s : St) (h : Reachable P s) :
    ∀ d ∈ s.decisions, (d.2.1 = true ↔ (isModelname d.1 = true ∧ d.2.2 = true)) := by
  intro d hd
  simp [decision_exact h d hd, isModelname, and_comm]

/-- the decision about a line does not depend on anything but the two facts above: two lines of one
    execution that agree on them are treated alike -/
theorem C13_decision_functional (P : Params) (s : St) (h : Reachable P s) :
    ∀ d ∈ s.decisions, ∀ e ∈ s.decisions, isModelname d.1 = isModelname e.1 → d.2.2 = e.2.2 → d.2.1 = e.2.1 := by
  intro d hd e he hm hp
  rw [decision_exact h d hd, decision_exact h e he, hp, show L4.isModelname d.1 = L4.isModelname e.1 from hm]

def demoP : Params := ⟨100, 1000, 2000, 500, 8⟩
def demoLine : List UInt8 := "@SYS:MODELNAME=RX\r\n".toUTF8.toList
/-- connect: the reader runs `connection_made` and blocks in `read`; the protocol is published -/
def demoUp : List Label := [.startR, .r, .r, .r, .r, .r, .r, .publish]
/-- the sender takes the first start-up probe: get / flag / log / lock / write / unlock / sleep / wake -/
def demoProbe : List Label := [.s, .s, .s, .s, .s, .s, .tick 100, .s]
/-- the device sends a MODELNAME line; the reader frames it, logs it, reads the flag, clears it -/
def demoRecv : List Label := [.dev demoLine, .rGet false, .r, .r, .rGet false, .r, .r, .r, .r]

/-- a probe has been started, the MODELNAME line arrives next: withheld (`(text, withheld, probe since)`), the
    flag is clear again and the reader is back at splitting its buffer -/
example : (run demoP {} (demoUp ++ demoProbe ++ demoRecv)).map (fun s => (s.decisions, s.kaPending, s.rpc)) =
    some ([("@SYS:MODELNAME=RX", true, true)], false, .split) := by decide +kernel

/-- the same line once more, no probe started in between: delivered — keep-alive handling swallows nothing else -/
theorem demo_decisions : (run demoP {} (demoUp ++ demoProbe ++ demoRecv ++ [.r, .r] ++ demoRecv ++ [.r])).map (fun s => s.decisions) =
    some [("@SYS:MODELNAME=RX", true, true), ("@SYS:MODELNAME=RX", false, false)] := by decide +kernel

example : (run demoP {} (demoUp ++ demoProbe ++ demoRecv ++ [.r, .r] ++ demoRecv ++ [.r])).map (fun s => s.decisions) =
    some [("@SYS:MODELNAME=RX", true, true), ("@SYS:MODELNAME=RX", false, false)] := demo_decisions

/-- … and that execution is a `Reachable` state with a withheld and a delivered MODELNAME line, so the
    quantifiers of `C13_only_if`, `C13_delivered_otherwise`, `C13_converse`, `C13_withheld_iff` range over
    something -/
example : ∃ s, Reachable demoP s ∧ (∃ d ∈ s.decisions, d.2.1 = true) ∧ (∃ d ∈ s.decisions, isModelname d.1 = true ∧ d.2.1 = false) := by
  obtain ⟨s, hs, hd⟩ := Option.map_eq_some_iff.1 demo_decisions
  refine ⟨s, ⟨_, hs⟩, ?_⟩
  rw [hd]
  exact ⟨⟨_, List.mem_cons_self, rfl⟩, _, List.mem_cons_of_mem _ List.mem_cons_self, by decide +kernel, rfl⟩

end Ynca.C13
