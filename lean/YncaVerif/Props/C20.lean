import YncaVerif.Lemmas.C20
/-! # C20 — the communication log is a faithful, bounded record of the wire -/
namespace Ynca.C20
open Ynca.L4

/-- **ring = suffix**: after any sequence of `add`s a ring of capacity `n` (`collections.deque(maxlen=n)`)
    holds the last `min n k` items in order -/
theorem C20_ring_is_suffix {α : Type} (n : Nat) (xs : List α) :
    xs.foldl (ringAdd n) [] = xs.drop (xs.length - n) := by
  simpa using ring_is_suffix_gen n xs []

/-- **bounded**, and empty for `n = 0` -/
theorem C20_bounded {α : Type} (n : Nat) (xs : List α) : (xs.foldl (ringAdd n) []).length ≤ n := by
  rw [C20_ring_is_suffix]; simp; omega

theorem C20_zero_is_empty {α : Type} (xs : List α) : xs.foldl (ringAdd 0) [] = [] := by
  rw [C20_ring_is_suffix]; simp

/-- **sends are faithful**: the `Send` entries of the (unbounded) log are exactly the lines written, in
    transmission order, plus at most one entry that is logged but not yet (or, on a write error, never) written -/
theorem C20_sends_faithful (P : Params) (s : St) (h : Reachable P s) :
    ∃ extra, logSends s = wireTexts s ++ extra ∧ extra.length ≤ 1 :=
  sends_faithful h

/-- **receives are faithful**: the `Received` entries are exactly the complete lines taken from the stream, in
    arrival order (the newest line may not be logged yet) -/
theorem C20_receives_faithful (P : Params) (s : St) (h : Reachable P s) :
    ∃ extra, s.rxLines = logRecvs s ++ extra ∧ extra.length ≤ 1 :=
  receives_faithful h

/-- keep-alive probes are logged like every other transmission: a `Send` entry is appended for every item the
    sender is about to write, before the write -/
theorem C20_logged_before_write (P : Params) (s s' : St) (t : String) (hr : Reachable P s)
    (h : step P s .s = some (s', some (.write t))) : t ∈ logSends s := by
  obtain ⟨_, hp, _⟩ := (step_sound h).write_inv
  obtain ⟨extra, h1, h2⟩ := sendsInv hr
  rw [hp] at h2
  rw [h1, show extra = [t] from h2]; simp

end Ynca.C20
