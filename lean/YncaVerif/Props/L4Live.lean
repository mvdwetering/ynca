import YncaVerif.Lemmas.NoHang
import YncaVerif.Lemmas.AcceptSound
/-! # The library never waits for ever on itself (supports C14 "never hangs", C15 "both threads terminate", C16 "always returns")

Over the L4 model, for every reachable state (any number of callers, any device, faults, `close()` on any thread at any time):

* `L4_time_never_stops`: when no library thread can take a step, time can pass (no time-lock);
* `L4_always_a_step`: some step of the library's own threads or of the clock is always enabled (no deadlock);
* `L4_no_hang`: when no thread can move **and no time-out lies ahead** — the situation in which nothing would ever happen again —
  then either the reader's read time-out has just expired, or the reader is inside user code that is free to return, or every
  thread has finished.  So every wait of the library is either bounded by a deadline or a wait for the user / the device;
* `L4_lock_holder_progresses`: whoever holds the transport lock is at a point from which it releases it.

Bounds in time (how long `close()` takes) remain with the monitors. -/
namespace Ynca.L4Live
open Ynca.L4 Ynca.L4.NoHang

theorem L4_lock_holder_progresses (P : Params) (s : St) (h : Reachable P s) (t : Tid) (hl : s.lock = some t) :
    (t = tidS ∧ C12L.holdsLock s.spc = true) ∨ holdsClose (upcOf s t) = true :=
  lockInv h t hl

theorem L4_no_hang (P : Params) (s : St) (hr : Reachable P s) (hcm : canMove P s = false)
    (hdl : ∀ dl ∈ deadlines s, dl ≤ s.now) :
    (step P s (.rGet true)).isSome = true ∨ (step P s .cbRet).isSome = true ∨ Quiescent s := by
  obtain ⟨hS, hR, hU, hD, hG⟩ := canMove_false hcm
  have hli := lockInv hr
  -- a waiting thread waits for the lock, whose holder moves, or for a deadline, which has passed
  have locked : s.lock ≠ none → False := fun h => by
    cases hl : s.lock with
    | none => exact h hl
    | some t => exact holder_moves hli hl hS hU hdl
  have hidle : ∀ t, upcOf s t = .idle := fun t => (stepU_none_late (hU t) hdl).resolve_right fun h => locked h.2
  have hspc : s.spc = .notStarted ∨ s.spc = .done ∨ s.spc = .dead := by
    have := stepS_none hS
    cases hs : s.spc with
    | notStarted => exact .inl rfl
    | done => exact .inr (.inl rfl)
    | dead => exact .inr (.inr rfl)
    | waitGet d => rw [hs] at this; exact absurd (hdl d (by simp [deadlines, hs])) (Nat.not_le.2 this.2)
    | sleeping u => rw [hs] at this; exact absurd (hdl u (by simp [deadlines, hs])) (Nat.not_le.2 this)
    | lockWait => rw [hs] at this; exact (locked this).elim
    | _ => rw [hs] at this; exact this.elim
  have hrc : s.rcall = .idle := by simpa [upcOf] using hidle tidR
  have := stepR_none hR
  have hok := rpcOK_inv hr
  cases hrp : s.rpc with
  | notStarted => exact .inr (.inr ⟨hspc, .inl hrp, hidle⟩)
  | done => exact .inr (.inr ⟨hspc, .inr hrp, hidle⟩)
  | reading n dl =>
    cases dl with
    | none => rw [hrp] at hok; cases hok
    | some d =>
      obtain ⟨h1, h2, h3⟩ := hG n _ hrp
      exact .inl (by simp [step, hrp, h1, h2, h3, hdl d (by simp [deadlines, hrp])])
  | inCb | inDiscCb => exact .inr (.inl (by simp [step, hrp, hrc]))
  | deliver l todo =>
    cases todo with
    | nil => rw [hrp] at this; exact this.elim
    | cons c cs => exact absurd hrp (hD l c cs)
  | lostJoin d => rw [hrp] at this; exact absurd (hdl d (by simp [deadlines, hrp])) (Nat.not_le.2 this)
  | made k => simp only [hrp, rpcOK, decide_eq_true_eq] at this hok; omega
  | lost k => simp only [hrp, rpcOK, Bool.and_eq_true, decide_eq_true_eq, bne_iff_ne] at this hok; omega
  | _ => rw [hrp] at this; exact this.elim

theorem L4_time_never_stops (P : Params) (s : St) (hcm : canMove P s = false) : ∃ d, (step P s (.tick d)).isSome = true :=
  ⟨_, by rw [tick_jump P s (s.now + 1) hcm (Nat.lt_succ_self _)]; rfl⟩

theorem canMove_gives_label (P : Params) (s : St) (h : canMove P s = true) :
    ∃ l, isThreadLabel l = true ∧ (step P s l).isSome = true := by
  unfold canMove at h
  simp only [Bool.or_eq_true] at h
  rcases h with ((((h | h) | h) | h) | h) | h
  · exact ⟨.s, rfl, h⟩
  · exact ⟨.r, rfl, h⟩
  · exact ⟨.u tidR, rfl, h⟩
  · split at h
    · rename_i l c cs hrp
      refine ⟨.rCb c, rfl, ?_⟩
      simp only [step, hrp]
      simp only [List.contains_cons, beq_self_eq_true, Bool.true_or, if_true]
      split <;> rfl
    · simp at h
  · rw [List.any_eq_true] at h
    obtain ⟨c, _, hc⟩ := h
    exact ⟨.u c.1, rfl, hc⟩
  · split at h
    · rename_i n dl hrp
      refine ⟨.rGet false, rfl, ?_⟩
      simp only [step, hrp]
      revert h
      cases s.inbox.isEmpty <;> cases s.faultPending <;> cases s.portOpen <;> simp
    · simp at h

/-- **no deadlock, no time-lock** -/
theorem L4_always_a_step (P : Params) (s : St) : ∃ l, isThreadLabel l = true ∧ (step P s l).isSome = true := by
  cases h : canMove P s with
  | true => exact canMove_gives_label P s h
  | false =>
    obtain ⟨d, hd⟩ := L4_time_never_stops P s h
    exact ⟨.tick d, rfl, hd⟩

/-! non-vacuity: a whole session ends quiescent — start, two probes, planned close() from a caller thread -/
def P0 : Params := ⟨100000, 30000000, 2000000, 1000000, 0⟩
def session : List Label :=
  [.startR, .r, .r, .r, .r, .r, .publish,                      -- connection_made, connect() returns
   .s, .s, .s, .s, .s, .s, .r,                                  -- first probe written; the reader blocks in read()
   .callClose 10, .u 10, .u 10, .u 10,                          -- close(): clear the callback, take the lock, alive := false, join
   .tick 100000, .s, .s, .s, .s,                                -- the sender takes the second probe, logs it and waits for the lock
   .tick 900000, .rGet true, .r, .r, .r, .r,                    -- the read times out, the reader leaves its loop: connection_lost drains,
                                                                --   posts _EXIT and joins the sender (which waits for the lock)
   .tick 1000000, .u 10, .u 10, .u 10, .u 10,                   -- close()'s join times out (2 s): port closed, lock released, close() returns
   .s, .s, .r, .r, .r]                                          -- the sender gets the lock, its write is rejected: it dies; the reader ends

example : ∃ s, run P0 {} session = some s ∧ canMove P0 s = false ∧ deadlines s = [] ∧
    s.spc = .dead ∧ s.rpc = .done ∧ upcOf s 10 = .idle ∧ s.portOpen = false := by
  decide +kernel

end Ynca.L4Live
