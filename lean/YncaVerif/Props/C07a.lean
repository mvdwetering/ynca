import YncaVerif.Lemmas.Api
import YncaVerif.Props.C07
/-! # C07 / C14 at the level of the `YncaApi` program (L7, Model/Api.lean)

What `initialize()` leaves in `_subunits`, for every delivery of messages, every timing and every outcome of the
per-object initialisations.  The model is executed on real runs of `YncaApi.initialize()` by `harness/apimodel.py`
(driver mode `api`): the labels are read off the scheduled execution, each must be enabled, and the model's key list must
be the real object's. -/
namespace Ynca.C07a
open Ynca.L7

/-- **exactly the subunits the device announced**: after a normal return of `initialize()` the keys of `_subunits`
    are — in this order — `SYS`, then the ids heard in an `AVAIL` message during the detection stage that have a class,
    in ascending order (one key each). -/
theorem C07a_ready_keys (P : Params) (a : A) (h : Reachable P a) (hr : a.phase = .ready) :
    a.subunits = keysOf (plan P.classIds a.avail) := by
  have := (reachable_inv P a h).phase
  rw [hr] at this
  exact this.2.2

/-- the accessor of `x` is set exactly when `x` is `SYS` or an `AVAIL` message for `x` was delivered to the API's
    callback during the detection stage of this `initialize()` and a class is registered for `x` -/
theorem C07a_accessor_iff (P : Params) (a : A) (h : Reachable P a) (hr : a.phase = .ready) (x : String) :
    x ∈ a.subunits ↔ x = "SYS" ∨ ((∃ m ∈ a.heard, m.fn = some "AVAIL" ∧ m.subunit = some x) ∧ x ∈ P.classIds) := by
  have hi := reachable_inv P a h
  rw [C07a_ready_keys P a h hr, mem_keysOf, mem_plan, hi.mem_avail x]

/-- every id the library knows has a class (regenerated tables): for those, "has a class" drops out -/
theorem C07a_known_ids_have_classes : Gen.subunitIds.all (fun i => (Gen.classes.map (·.id)).contains i) = true := by
  decide +kernel

/-- a normal return needs the synchronisation reply: a `SYS`/`VERSION` message was delivered after detection began -/
theorem C07a_ready_needs_sync (P : Params) (a : A) (h : Reachable P a)
    (hr : a.phase = .ready ∨ ∃ todo, a.phase = .building todo) :
    ∃ m ∈ a.heard, m.subunit = some "SYS" ∧ m.fn = some "VERSION" := by
  have hi := reachable_inv P a h
  have hph := hi.phase
  have he : a.event = true := by
    rcases hr with hr | ⟨todo, hr⟩ <;> (rw [hr] at hph; exact hph.2.1)
  rw [hi.event, List.any_eq_true] at he
  obtain ⟨m, hm, hv⟩ := he
  refine ⟨m, hm, ?_⟩
  simpa [isVersionMsg] using hv

/-- the keys are pairwise distinct and, after `SYS`, ascending -/
theorem C07a_plan_shape (cls av : List String) (h : av.Nodup) :
    (plan cls av).head? = some "SYS" ∧ Sorted (plan cls av).tail ∧ (plan cls av).tail.Nodup :=
  ⟨rfl, plan_tail_sorted cls av, plan_tail_nodup cls av h⟩

/-- **C14 at this level — a failed `initialize()` leaves nothing behind**: whenever `initialize()` has raised (or the
    object was closed) no accessor is set and the connection is forgotten -/
theorem C14a_failed_leaves_nothing (P : Params) (a : A) (h : Reachable P a)
    (hf : a.phase = .failed ∨ a.phase = .closed) : a.subunits = [] ∧ a.connection = false := by
  have hph := (reachable_inv P a h).phase
  rcases hf with hf | hf <;> rw [hf] at hph
  · exact ⟨hph.1, hph.2.1⟩
  · exact hph

/-- nothing is visible before the detection stage has ended -/
theorem C07a_nothing_before_detection (P : Params) (a : A) (h : Reachable P a)
    (hd : a.phase = .enqueueing ∨ ∃ dl, a.phase = .detecting dl) : a.subunits = [] := by
  have hph := (reachable_inv P a h).phase
  rcases hd with hd | ⟨dl, hd⟩ <;> rw [hd] at hph
  · exact hph
  · exact hph.1

/-- **bounded**: the detection wait cannot outlast its deadline, and at the deadline (or as soon as the event is set)
    the caller moves: the stage always ends -/
theorem C14a_detection_bounded (P : Params) (a : A) (h : Reachable P a) (dl : Nat) (hd : a.phase = .detecting dl) :
    a.now ≤ dl ∧ ((step P a .wake).isSome ∨ (step P a .timeout).isSome ∨ ∀ d, a.now + d ≤ dl → (step P a (.tick d)).isSome) := by
  have hph := (reachable_inv P a h).phase
  rw [hd] at hph
  refine ⟨hph.2, ?_⟩
  by_cases he : a.event = true
  · left; simp [step, hd, he]
  · right; right
    intro d hdl
    simp [step, hd, he, hdl]

/-- the deadline is the start of the wait plus `2 s + 5·spacing` per submitted command -/
theorem C14a_deadline (P : Params) (a a' : A) (n : Nat) (h : step P a (.wait n) = some a') :
    a'.phase = .detecting (a.now + P.baseUs + P.perCmdUs * n) := by
  cases step_sound h; rfl

def okMsg (s f v : String) : Msg := ⟨.ok, some s, some f, some v⟩

/-- a receiver with MAIN and ZONE2; `TUN` answers with an error; an id without a class is announced too -/
def demo : List Label :=
  [.start, .wait 24, .tick 300000,
   .msg ⟨.undefined, none, none, none⟩, .msg (okMsg "ZONE2" "AVAIL" "Not Ready"), .msg (okMsg "MAIN" "AVAIL" "Ready"),
   .msg (okMsg "MAIN" "AVAIL" "Ready"), .msg (okMsg "FUTURE" "AVAIL" "Ready"), .msg (okMsg "MAIN" "VOL" "-30.0"),
   .msg (okMsg "SYS" "VERSION" "1.2/3.4"), .wake, .msg (okMsg "ZONE3" "AVAIL" "Ready"),
   .subunitOk, .tick 5, .subunitOk, .subunitOk]

example : (run { classIds := Gen.classes.map (·.id) } {} demo).map (fun a => (a.phase, a.subunits)) =
    some (.ready, ["SYS", "MAIN", "ZONE2"]) := by decide +kernel

example : (run { classIds := Gen.classes.map (·.id) } {} [.start, .wait 24, .tick 14000000, .timeout]).map
    (fun a => (a.phase, a.subunits, a.connection)) = some (.failed, [], false) := by decide +kernel

/-- the wait cannot be left by the time-out one microsecond early, nor can the clock pass the deadline -/
example : run { classIds := [] } {} [.start, .wait 24, .tick 13999999, .timeout] = none := by decide +kernel
example : run { classIds := [] } {} [.start, .wait 24, .tick 14000001] = none := by decide +kernel

end Ynca.C07a
