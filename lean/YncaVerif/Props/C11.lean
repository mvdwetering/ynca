import YncaVerif.Lemmas.Stepped
import YncaVerif.Model.Conv
import YncaVerif.Gen.Functions
import YncaVerif.Gen.Enums
/-! # C11 — stepped numbers are written on the step grid with fixed decimals

Numbers are exact rationals `vn/vd` (every Python `int` and finite `float` is one), a step is
`sn/sd`, `d` is the number of decimals.  All statements are in cross-multiplied integer form:
the written text denotes `mant / 10^d`, the grid point is `k · sn/sd`.

The theorems hold for *every* rational (no magnitude bound is needed), which covers the
property's "every finite number of magnitude up to 10^4". -/
namespace Ynca.C11

/-- The statement's table: function ↦ (step numerator, step denominator, decimals).
    Part of the *property*, not generated. -/
def spec : List (String × Nat × Nat × Nat) :=
  [("VOL", 1, 2, 1), ("ZONEBVOL", 1, 2, 1), ("HPBASS", 1, 2, 1), ("HPTREBLE", 1, 2, 1),
   ("SPBASS", 1, 2, 1), ("SPTREBLE", 1, 2, 1), ("INITVOLLVL", 1, 2, 1),
   ("MAXVOL", 5, 1, 1), ("FMFREQ", 1, 5, 2), ("AMFREQ", 10, 1, 0)]

/-- a grid is representable with `d` decimals -/
def GridOk (sn sd d : Nat) : Prop := 0 < sn ∧ 0 < sd ∧ sd ∣ sn * 10 ^ d

instance (sn sd d : Nat) : Decidable (GridOk sn sd d) := by unfold GridOk; infer_instance

/-- every grid of the statement's table is representable -/
theorem spec_grids_ok : ∀ e ∈ spec, GridOk e.2.1 e.2.2.1 e.2.2.2 := by decide

/-- shape of the text: optional minus, non-empty digits, and for `d > 0` a point and exactly `d` digits -/
def WellFormed (d : Nat) (txt : List Char) : Prop :=
  ∃ sign ip fp, txt = sign ++ ip ++ (if d = 0 then [] else '.' :: fp) ∧
    (sign = [] ∨ sign = ['-']) ∧ ip ≠ [] ∧ allDigits ip = true ∧
    (d = 0 → fp = []) ∧ (0 < d → fp.length = d ∧ allDigits fp = true)

/-- the signed mantissa the text denotes: `mant / 10^d` -/
def mantOf (k : Int) (sn sd d : Nat) : Int :=
  if k < 0 then -(scaledAbs k sn sd d : Int) else (scaledAbs k sn sd d : Int)

/-- the text is a minus sign exactly for a negative mantissa, followed by the digits of its absolute value -/
theorem formatSteps_eq (k : Int) (sn sd d : Nat) :
    formatSteps k sn sd d =
      (if mantOf k sn sd d < 0 then ['-'] else []) ++ unsignedText (mantOf k sn sd d).natAbs d := by
  unfold formatSteps mantOf
  dsimp only
  generalize scaledAbs k sn sd d = m
  have hneg : (k < 0 ∧ 0 < m) ↔ (if k < 0 then -(m : Int) else (m : Int)) < 0 := by split <;> omega
  have habs : (if k < 0 then -(m : Int) else (m : Int)).natAbs = m := by split <;> omega
  rw [habs, List.append_assoc, unsignedText]
  simp only [hneg]

/-- **format**: the text is a plain decimal literal with exactly `d` decimals -/
theorem C11_format (vn : Int) (vd sn sd d : Nat) :
    WellFormed d (numberToString vn vd d sn sd) := by
  rw [numberToString, formatSteps_eq]
  generalize mantOf (stepsOf vn vd sn sd) sn sd d = mant
  generalize mant.natAbs = m
  refine ⟨if mant < 0 then ['-'] else [], Nat.toDigits 10 (m / 10 ^ d),
    if d = 0 then [] else padDigits d (m % 10 ^ d), ?_, ?_,
    Nat.toDigits_ne_nil, allDigits_toDigits _, fun hd => if_pos hd, fun hd => ?_⟩
  · by_cases hd : d = 0 <;> simp [unsignedText, hd]
  · split <;> simp
  · rw [if_neg (by omega)]
    exact ⟨length_padDigits d _ hd (Nat.mod_lt _ (Nat.pow_pos (by omega))), allDigits_padDigits _ _⟩

/-- **decode back**: reading the written text as a decimal literal gives exactly the mantissa
    `mantOf` with `d` fraction digits -/
theorem parse_formatSteps (k : Int) (sn sd d : Nat) :
    parseDecimal (formatSteps k sn sd d) = some (mantOf k sn sd d, d) := by
  rw [formatSteps_eq]
  generalize mantOf k sn sd d = mant
  have hu := parseUnsigned_unsignedText mant.natAbs d
  split
  · rw [List.singleton_append, parseDecimal, hu]
    simp only [Option.map_some, Option.some.injEq, Prod.mk.injEq, and_true]
    omega
  · obtain ⟨c, cs, hb, hc⟩ := unsignedText_eq_cons mant.natAbs d
    rw [List.nil_append, hb, parseDecimal_of_isDigit hc, ← hb, hu]
    simp only [Option.map_some, Option.some.injEq, Prod.mk.injEq, and_true]
    omega

/-- **on grid**: the written number `mant/10^d` is exactly `k · sn/sd` -/
theorem C11_on_grid (k : Int) (sn sd d : Nat) (hg : GridOk sn sd d) :
    mantOf k sn sd d * sd = k * sn * 10 ^ d := by
  obtain ⟨_, hsd, hdvd⟩ := hg
  have hdiv : sd ∣ k.natAbs * sn * 10 ^ d := by
    rw [Nat.mul_assoc]; exact Nat.dvd_mul_left_of_dvd hdvd _
  have hx : scaledAbs k sn sd d * sd = k.natAbs * sn * 10 ^ d := Nat.div_mul_cancel hdiv
  have hxi : ((scaledAbs k sn sd d : Nat) : Int) * (sd : Int) = (k.natAbs : Int) * sn * 10 ^ d := by
    exact_mod_cast hx
  unfold mantOf
  split
  · rename_i hk
    have : (k.natAbs : Int) = -k := by omega
    rw [Int.neg_mul, hxi, this]; simp [Int.neg_mul]
  · rename_i hk
    have : (k.natAbs : Int) = k := by omega
    rw [hxi, this]

/-- **nearest**: the chosen number of steps `k` is within half a step of `v`, and no other grid
    point is nearer (`|v − k·step| ≤ |v − j·step|`, cross-multiplied by `vd·sd`) -/
theorem C11_nearest (vn : Int) (vd sn sd : Nat) (hvd : 0 < vd) (hsn : 0 < sn) :
    let k := stepsOf vn vd sn sd
    2 * (vn * sd - k * ((vd * sn : Nat) : Int)).natAbs ≤ vd * sn ∧
    ∀ j : Int, (vn * sd - k * ((vd * sn : Nat) : Int)).natAbs ≤ (vn * sd - j * ((vd * sn : Nat) : Int)).natAbs := by
  have hq : 0 < vd * sn := Nat.mul_pos hvd hsn
  exact ⟨roundHalfEven_near _ _ hq, roundHalfEven_nearest _ _ hq⟩

/-- **no negative zero**: the text starts with a minus sign exactly when the written number is negative -/
theorem C11_sign (k : Int) (sn sd d : Nat) :
    (formatSteps k sn sd d).head? = some '-' ↔ mantOf k sn sd d < 0 := by
  rw [formatSteps_eq]
  split
  · simpa
  · obtain ⟨c, cs, hb, hc⟩ := unsignedText_eq_cons (mantOf k sn sd d).natAbs d
    rw [List.nil_append, hb, List.head?_cons, Option.some.injEq, iff_false_right ‹_›]
    rintro rfl
    exact absurd hc (by decide)

/-- **C11** for one assignment: for every rational `vn/vd` and every grid of the statement's table,
    the transmitted text is well formed with `d` decimals, decodes (as a decimal literal) to a
    number that is exactly `k` steps, `k` being a nearest grid index, and carries a minus sign
    only if that number is negative. -/
theorem C11_main (vn : Int) (vd : Nat) (hvd : 0 < vd) (e : String × Nat × Nat × Nat) (he : e ∈ spec) :
    let sn := e.2.1; let sd := e.2.2.1; let d := e.2.2.2
    let txt := numberToString vn vd d sn sd
    let k := stepsOf vn vd sn sd
    WellFormed d txt ∧
    (∃ mant : Int, parseDecimal txt = some (mant, d) ∧ mant * sd = k * sn * 10 ^ d ∧
        (txt.head? = some '-' ↔ mant < 0)) ∧
    2 * (vn * sd - k * ((vd * sn : Nat) : Int)).natAbs ≤ vd * sn ∧
    (∀ j : Int, (vn * sd - k * ((vd * sn : Nat) : Int)).natAbs ≤ (vn * sd - j * ((vd * sn : Nat) : Int)).natAbs) := by
  have hg := spec_grids_ok e he
  intro sn sd d txt k
  refine ⟨C11_format vn vd sn sd d, ⟨mantOf k sn sd d, parse_formatSteps k sn sd d, C11_on_grid k sn sd d hg,
    C11_sign k sn sd d⟩, ?_⟩
  exact C11_nearest vn vd sn sd hvd hg.1

/-- the MAXVOL converter of the statement: 16.5 is sent as `16.5`, everything else on the 5 dB grid -/
def maxvolConv : Conv := .multi [.float .only165, .float (.stepped 1 5 1)]

/-- **MAXVOL exception**: 16.5 (= 33/2) is transmitted as `16.5` -/
theorem C11_maxvol_exception : encode Gen.enums maxvolConv (.float 33 2) = .sent "16.5" := by decide +kernel

/-- …and every other finite float goes through the 5 dB grid formatter -/
theorem C11_maxvol_otherwise (vn : Int) (vd : Nat) (hvd : 0 < vd) (h : vn * 2 ≠ 33 * (vd : Int)) :
    encode Gen.enums maxvolConv (.float vn vd) = .sent (String.ofList (numberToString vn vd 1 5 1)) := by
  have : vd ≠ 0 := by omega
  -- `h` makes the first alternative (`only165`) raise, so the multi-converter falls through to the stepped one
  simp [maxvolConv, encode, encode.encodeMulti, numGuard, applyToStr, h, this]

/-- first stepped formatter inside a converter -/
def steppedOf : Conv → Option (Nat × Nat × Nat)
  | .int (.stepped d sn sd) => some (sn, sd, d)
  | .intOrNone (.stepped d sn sd) => some (sn, sd, d)
  | .float (.stepped d sn sd) => some (sn, sd, d)
  | .multi cs => go cs
  | _ => none
where go : List Conv → Option (Nat × Nat × Nat)
  | [] => none
  | c :: cs => match steppedOf c with
    | some g => some g
    | none => go cs

def specOf (name : String) : Option (Nat × Nat × Nat) := (spec.find? (·.1 == name)).map (·.2)

/-- the generated function tables agree with the statement's table: every writable function
    carries exactly the stepped formatter the statement lists for its name (or none) -/
def wiringOk (cs : List Cls) : Bool :=
  cs.all (fun c => c.fns.all (fun f => !f.put || steppedOf f.conv == specOf f.name))

/-- every function of the statement's table exists (writable) in some class -/
def specCovered (cs : List Cls) : Bool :=
  spec.all (fun e => cs.any (fun c => c.fns.any (fun f => f.name == e.1 && f.put)))

/-- MAXVOL is wired with the exception in front -/
def maxvolWired (cs : List Cls) : Bool :=
  cs.all (fun c => c.fns.all (fun f => f.name != "MAXVOL" ||
    (match f.conv with
     | .multi [.float .only165, .float (.stepped 1 5 1)] => true
     | _ => false)))

/-- the three facts about the regenerated function tables in one kernel evaluation (one conversion of the
    tables' strings instead of three) -/
theorem wiring_checked :
    wiringOk Gen.classes = true ∧ specCovered Gen.classes = true ∧ maxvolWired Gen.classes = true := by
  simp only [← Bool.and_eq_true]
  decide +kernel

/-- **wiring** (complete check of the regenerated table, not a sample) -/
theorem C11_wiring : wiringOk Gen.classes = true ∧ specCovered Gen.classes = true :=
  ⟨wiring_checked.1, wiring_checked.2.1⟩

theorem C11_maxvol_wiring : maxvolWired Gen.classes = true := wiring_checked.2.2

example : numberToString 86 10 2 1 5 = "8.60".toList := by decide +kernel
example : numberToString (-1) 4 1 1 2 = "0.0".toList := by decide +kernel
example : numberToString (-805) 10 1 1 2 = "-80.5".toList := by decide +kernel
example : numberToString 1234 1 0 10 1 = "1230".toList := by decide +kernel
example : ("FMFREQ", 1, 5, 2) ∈ spec := by decide

end Ynca.C11
