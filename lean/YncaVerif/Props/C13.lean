import YncaVerif.Lemmas.C13
/-! # C13 — keep-alive traffic is invisible and swallows nothing else
Over the L4 model at attribute granularity: the sender sets the flag when it dequeues a probe (rule `flag`),
the reader reads the flag (`line1`) and clears it (`withhold` / `deliver`) for every line, in separate steps that interleave
freely.  `decisions` records, for every received line, its text, whether it was withheld, and whether a
probe had been flagged since the flag was last cleared (i.e. since the previous line was processed, or
since the connection was made). -/
namespace Ynca.C13
open Ynca.L4

/-- the line is a `SYS:MODELNAME` report -/
abbrev isModelname := @Ynca.L4.isModelname

/-- the flag is set exactly when a probe was flagged since it was last cleared -/
theorem C13_flag_exact (P : Params) (s : St) (h : Reachable P s) :
    s.kaPending = decide (s.probesAtClear < s.probesStarted) :=
  (kaInv h).flag

/-- **only if**: a line is withheld only if it is a `SYS:MODELNAME` line and a probe was started since the
    previous line was processed -/
theorem C13_only_if (P : Params) (s : St) (h : Reachable P s) :
    ∀ d ∈ s.decisions, d.2.1 = true → isModelname d.1 = true ∧ d.2.2 = true := by
  intro d hd hw
  simpa [hw, and_comm] using (decision_exact h d hd).symm

/-- **delivered otherwise**: every other line is delivered — in particular a MODELNAME reply to the user's own
    query when no probe has been started since the previous line -/
theorem C13_delivered_otherwise (P : Params) (s : St) (h : Reachable P s) :
    ∀ d ∈ s.decisions, (isModelname d.1 = false ∨ d.2.2 = false) → d.2.1 = false := by
  intro d hd hw
  rw [decision_exact h d hd]
  rcases hw with hw | hw <;> simp [hw]

/-- **converse**: a MODELNAME line that arrives while a probe has been started since the flag was last
    cleared is withheld -/
theorem C13_converse (P : Params) (s : St) (h : Reachable P s) :
    ∀ d ∈ s.decisions, isModelname d.1 = true → d.2.2 = true → d.2.1 = true := by
  intro d hd hm hp
  rw [decision_exact h d hd, hp, show L4.isModelname d.1 = true from hm]; rfl

/-- a withheld line reaches no message callback: the reader goes straight back to splitting the buffer -/
theorem C13_withheld_not_delivered (P : Params) (s s' : St) (l : String) (o : Option Obs)
    (hpc : s.rpc = .line2 l true) (h : step P s .r = some (s', o)) : s'.rpc = .split ∧ o = none := by
  have at2 : ∀ {r}, s.rpc = r → r = .line2 l true := fun h => h.symm.trans hpc
  clear hpc
  cases step_sound h with
  | r h =>
    cases h with
    | withhold => exact ⟨rfl, rfl⟩
    | _ => cases at2 (by assumption)

end Ynca.C13
