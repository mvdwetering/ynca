import YncaVerif.Lemmas.C01
/-! # C01 — commands reach the wire at most once, unchanged, in submission order; nothing else but probes
Over the L4 model.  `submitted` is the ghost list of commands in the linearisation order of their
enqueue; ids are unique, so a pair `(id, text)` on the wire identifies the submission and its text. -/
namespace Ynca.C01
open Ynca.L4

/-- **at most once, in order, text unchanged**: what is on the wire, in the sender's hands and still
    queued — in this order — is an order-preserving sub-sequence of what was submitted -/
theorem C01_sublist (P : Params) (s : St) (h : Reachable P s) :
    List.Sublist (wireCmds s.wire ++ inflight s.spc ++ queueCmds s.queue) (submittedCmds s) := by
  refine h.induction (fun s => List.Sublist (held s) (submittedCmds s)) (List.Sublist.refl _) ?_
  intro s l s' o _ hi hs
  rcases fifo_delta hs with ⟨h1, h2, _⟩ | ⟨x, h1, h2, _⟩ | ⟨h1, h2, _⟩
  · rw [h1, h2]; exact hi
  · rw [h1, h2]; exact hi.append (.refl _)
  · rw [h2]; exact h1.trans hi

/-- ids are unique (hence "at most once" is about submissions, not texts) -/
theorem C01_ids_unique (P : Params) (s : St) (h : Reachable P s) : ((submittedCmds s).map (·.1)).Nodup := by
  rw [submittedCmds_ids, idsInv h]; exact List.nodup_range

/-- **nothing is lost while the connection is up**: before the reader begins `connection_lost` and
    unless the sender died on a write error, that sub-sequence is everything -/
theorem C01_nothing_lost_while_up (P : Params) (s : St) (h : Reachable P s)
    (hup : lossBegun s.rpc = false) (hs : s.spc ≠ .dead) :
    wireCmds s.wire ++ inflight s.spc ++ queueCmds s.queue = submittedCmds s := by
  refine h.induction (fun s => lossBegun s.rpc = false → s.spc ≠ .dead → held s = submittedCmds s)
    (fun _ _ => rfl) ?_ hup hs
  intro s l s' o hr hi hs hup' hs'
  have hup := hs.later.loss_back hup'
  rcases fifo_delta hs with ⟨h1, h2, h3⟩ | ⟨x, h1, h2, h3⟩ | ⟨h1, h2, h3⟩
  · rw [h1, h2]; exact hi hup fun h => hs' (h3 h)
  · rw [h1, h2, hi hup (h3 ▸ hs')]
  · rcases h3 with h3 | h3 | h3
    · rw [h3] at hup'; cases hup'
    · exact absurd h3 hs'
    · -- `made0`: there was nothing to drop
      obtain ⟨hp, -, hq⟩ := (earlyInv hr).early (.inr h3)
      have hw := (earlyInv hr).noWire hp
      have h0 : held s = [] := by simp [held, hp, hq, hw, wireCmds, inflight, queueCmds]
      rw [h2, ← hi hup (by simp [hp]), h0]
      exact List.eq_nil_of_sublist_nil (h0 ▸ h1)

/-- **quiescence**: connection up, queue empty, sender back in its idle wait ⇒ every submitted command
    has been written -/
theorem C01_quiescent_complete (P : Params) (s : St) (h : Reachable P s)
    (hup : lossBegun s.rpc = false) (hq : s.queue = []) (d : Nat) (hs : s.spc = .waitGet d) :
    wireCmds s.wire = submittedCmds s := by
  have := C01_nothing_lost_while_up P s h hup (by rw [hs]; simp)
  simpa [hq, hs, inflight, queueCmds] using this

/-- **nothing but probes otherwise**: every write that is not a user command is the keep-alive probe -/
theorem C01_only_probes_else (P : Params) (s : St) (h : Reachable P s) :
    ∀ e ∈ s.wire, e.2.2 = none → e.2.1 = probe :=
  (probeInv h).wire

end Ynca.C01
