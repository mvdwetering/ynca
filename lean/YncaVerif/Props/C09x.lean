import YncaVerif.Lemmas.C09x
/-! # C09 (extension) — message callbacks on the concurrent model L4: exactly-once delivery of a line
    under registration and unregistration from other threads and from inside a callback

`Props/C09.lean` proves exactly-once delivery for the sequential model of a subunit's update callbacks.
This file proves the message-level part of C09 on L4, where the reader thread delivers a line by taking
a snapshot of the registry (`RPc.line2 l false  --r-->  RPc.deliver l s.msgCbs`), then repeatedly picks
ANY callback of the snapshot that is still to do (`Label.rCb cb`), invokes it if it is registered at that
moment (`Obs.msgCb cb (parseLine l)`, the reader is then at `RPc.inCb l cb todo` until `Label.cbRet`) and
skips it otherwise, and finishes the line when nothing is left (`RPc.deliver l []  --r-->  RPc.split`).
`Label.reg t cb` / `Label.unreg t cb` are enabled in every state for every thread id `t` (in particular
while the reader is inside a callback: re-entrant use), and a callback may also start `close()` on the
reader thread (`Label.callClose tidR`), whose step `r1` forgets all message callbacks.

The model keeps no record of the invocations.  `Ghost` (in `Lemmas/C09x.lean`) is that record, obtained
by replaying the labels next to the model (`grun`; by `grun_eq` it is the model's run with the record as
passenger, so its model component IS the model's run, `runWith_fst`, and every run of the model has a
replay, `run_runWith`): `g.seq` numbers the snapshots, `g.line`, `g.snap` are the line and the snapshot of
the current (`g.active`) or most recent delivery, `g.invoked` the callbacks invoked for it (a step showing
`Obs.msgCb c _`), in order, `g.skipped` the ones skipped.

Not covered here: the update-level callbacks (C09 on L3), exceptions raised by a callback (not in the
model), and liveness under a scheduler (the last section is the safety half: the reader is never
disabled). -/
namespace Ynca.C09x
open Ynca.L4 Ynca.L4.D9

/-- **at most once**: in every reachable state the list of callbacks invoked for the current (or most
    recent) line — it is emptied by the step that takes the snapshot and extended by every invocation —
    has no duplicates. -/
theorem C09x_at_most_once (P : Params) (s : St) (g : Ghost) (h : GReachable P (s, g)) :
    g.invoked.Nodup :=
  (List.nodup_append.1 (ginv h).turns.nodup).1

/-- the same, seen at the step: a callback that is being invoked has not been invoked for this line -/
theorem C09x_never_invoked_again (P : Params) (s : St) (g : Ghost) (h : GReachable P (s, g))
    (l : Label) (s' : St) (cb : Nat) (m : Msg) (hs : step P s l = some (s', some (.msgCb cb m))) :
    cb ∉ g.invoked ∧ cb ∉ g.skipped := by
  obtain ⟨ln, todo, h2, h3, _⟩ := (step_sound hs).msgCb_inv
  have := (ginv h).turns.todo cb
  simp only [h2, delivering, todoOf, List.mem_append, not_or] at this
  exact (this.1 (by simpa using h3)).2

/-- callbacks skipped for the current line are not skipped twice either, and none is both invoked and
    skipped: every `rCb` turn is about a different callback of the snapshot -/
theorem C09x_turns_distinct (P : Params) (s : St) (g : Ghost) (h : GReachable P (s, g)) :
    (g.invoked ++ g.skipped).Nodup :=
  (ginv h).turns.nodup

/-- **only registered**: whenever a step invokes message callback `cb` with message `m`
    (`Obs.msgCb cb m` at the boundary), that step is the reader's turn `rCb cb` of an active delivery,
    `cb` is in the snapshot taken for the line being delivered, `cb` is registered in the state in which
    it is invoked, and `m` is the parsed line. -/
theorem C09x_only_registered (P : Params) (s : St) (g : Ghost) (h : GReachable P (s, g))
    (l : Label) (s' : St) (cb : Nat) (m : Msg) (hs : step P s l = some (s', some (.msgCb cb m))) :
    l = .rCb cb ∧ g.active = true ∧ cb ∈ g.snap ∧ cb ∈ s.msgCbs ∧ m = parseLine g.line ∧
      ∃ todo, s.rpc = .deliver g.line todo ∧ cb ∈ todo := by
  obtain ⟨ln, todo, h2, h3, h4, h5, h1, _⟩ := (step_sound hs).msgCb_inv
  have h3 : cb ∈ todo := by simpa using h3
  have hi := ginv h
  rw [h2] at hi
  obtain ⟨ha, rfl⟩ := hi.line ln rfl
  exact ⟨h1, ha, ((hi.turns.todo cb).1 h3).1, by simpa using h4, h5, todo, h2, h3⟩

/-- state form: everything recorded as invoked (or skipped) for the line comes from its snapshot -/
theorem C09x_invoked_from_snapshot (P : Params) (s : St) (g : Ghost) (h : GReachable P (s, g)) :
    (∀ c ∈ g.invoked, c ∈ g.snap) ∧ (∀ c ∈ g.skipped, c ∈ g.snap) :=
  ⟨fun c hc => (ginv h).turns.fromSnap c (List.mem_append_left _ hc),
   fun c hc => (ginv h).turns.fromSnap c (List.mem_append_right _ hc)⟩

/-- a callback of the snapshot is skipped only if it is NOT registered when its turn comes -/
theorem C09x_skipped_only_unregistered (P : Params) (s s' : St) (cb : Nat)
    (hs : step P s (.rCb cb) = some (s', none)) : cb ∉ s.msgCbs := by
  cases step_sound hs with
  | r h => cases h with | skip _ _ hm => simpa using hm

/-- **not lost** (state-based side condition).  `s0` is any state in which the reader is about to take the
    snapshot for line `ln` (`s0.rpc = .line2 ln false`), the run continues with that step and then with
    ANY labels `ls` (registrations and unregistrations of other callbacks by any thread or from inside a
    callback, `close()` calls, faults, device input, further lines, …).  Side condition: `cb` is registered
    in every state of the run from which a step is taken (in `s0`, so it is in the snapshot, and up to —
    not necessarily including — the last state).  Then in the last state `cb` has been invoked for the
    line being delivered or is still in the reader's to-do list; so once the reader is no longer
    delivering (`delivering s.rpc = none`), `cb` is among the callbacks invoked for the most recent line;
    and if no further snapshot was taken (`g.seq = g0.seq + 1`) that line is `ln` with snapshot
    `s0.msgCbs`. -/
theorem C09x_not_lost (P : Params) (s0 : St) (g0 : Ghost) (ln : String) (cb : Nat) (ls : List Label)
    (s : St) (g : Ghost)
    (hpc : s0.rpc = .line2 ln false)
    (hrun : grun P (s0, g0) (.r :: ls) = some (s, g))
    (hreg : ∀ pre l post s1, .r :: ls = pre ++ l :: post → run P s0 pre = some s1 → cb ∈ s1.msgCbs) :
    (cb ∈ g.invoked ∨ cb ∈ todoL s.rpc) ∧
    (delivering s.rpc = none → cb ∈ g.invoked) ∧
    (g.seq = g0.seq + 1 → g.line = ln ∧ g.snap = s0.msgCbs ∧ cb ∈ g.snap) := by
  have hcb0 : cb ∈ s0.msgCbs := hreg [] .r ls s0 rfl rfl
  rw [grun_eq] at hrun
  simp only [runWith] at hrun
  split at hrun
  next s1 o hst =>
    -- the step from `line2 ln false` is the rule `deliver`
    have hs1 : s1 = { s0 with rpc := .deliver ln s0.msgCbs, kaPending := false, probesAtClear := s0.probesStarted } ∧ o = none := by
      cases step_sound hst with
      | r h =>
        cases h with
        | deliver hp => cases hpc.symm.trans hp; exact ⟨rfl, rfl⟩
        | _ => cases hpc.symm.trans (by assumption)
    obtain ⟨rfl, rfl⟩ := hs1
    simp only [gupd, hpc] at hrun
    -- from here on `cb` is served, and the record is about this delivery until the next snapshot is taken
    obtain ⟨hserved, hsame⟩ := runWith_induction
      (fun s g => Served cb (delivering s.rpc) g ∧ SameDelivery ⟨g0.seq + 1, ln, s0.msgCbs, [], [], true⟩ g)
      (fun s _ => cb ∈ s.msgCbs) (fun _ g _ _ _ hc hi h => ⟨hi.1.turn hc (.of_step h g), hi.2.turn (.of_step h g)⟩)
      hrun ⟨.inr hcb0, Nat.le_refl _, fun _ => ⟨rfl, rfl⟩⟩
      fun pre l post s2 e hr => hreg (.r :: pre) l post s2 (by rw [e]; rfl) (by simp only [run, hst]; exact hr)
    refine ⟨hserved, fun hd => hserved.resolve_right (by simp [todoOf, hd]), fun hq => ?_⟩
    have := hsame.2 hq
    exact ⟨this.1, this.2, this.2 ▸ hcb0⟩
  next => cases hrun

/-- **not lost** (label-based side condition).  From a reachable state in which the reader is about to
    take the snapshot for line `ln` and `cb` is registered: if, after the snapshot step, the run contains
    no `unregister(cb)` (by any thread id, the reader's included) and no `close()` started on the reader
    thread, i.e. from inside a callback — whatever else it contains, in particular `register`/`unregister`
    of any OTHER callback by any thread or re-entrantly, `close()` on other threads, link faults and write
    faults — then `cb` stays registered and the conclusions of `C09x_not_lost` hold. -/
theorem C09x_not_lost_labels (P : Params) (s0 : St) (g0 : Ghost) (ln : String) (cb : Nat) (ls : List Label)
    (s : St) (g : Ghost)
    (h0 : Reachable P s0)
    (hpc : s0.rpc = .line2 ln false) (hcb : cb ∈ s0.msgCbs)
    (hrun : grun P (s0, g0) (.r :: ls) = some (s, g))
    (hun : ∀ t, Label.unreg t cb ∉ ls) (hcl : Label.callClose tidR ∉ ls) :
    cb ∈ s.msgCbs ∧
    (cb ∈ g.invoked ∨ cb ∈ todoL s.rpc) ∧
    (delivering s.rpc = none → cb ∈ g.invoked) ∧
    (g.seq = g0.seq + 1 → g.line = ln ∧ g.snap = s0.msgCbs ∧ cb ∈ g.snap) := by
  have hk0 : Keeps cb s0 := by
    refine ⟨hcb, fun pc e => ?_, callInv h0⟩
    rw [(callInv h0).idleOutside (by simp [hpc, readerInCallback])] at e
    cases e
  have hkeep : ∀ pre post s1, .r :: ls = pre ++ post → run P s0 pre = some s1 → Keeps cb s1 := by
    intro pre post s1 e hr
    have hsub : ∀ l ∈ pre, l = .r ∨ l ∈ ls := fun l hl => List.mem_cons.1 (e ▸ List.mem_append_left _ hl)
    refine keeps_run hk0 (fun t hm => ?_) (fun hm => ?_) hr
    · exact (hsub _ hm).elim nofun (hun t)
    · exact (hsub _ hm).elim nofun hcl
  rw [grun_eq] at hrun
  refine ⟨(hkeep (.r :: ls) [] s (by simp) (runWith_run hrun)).reg, ?_⟩
  exact C09x_not_lost P s0 g0 ln cb ls s g hpc (by rw [grun_eq]; exact hrun)
    (fun pre l post s1 e hr => (hkeep pre (l :: post) s1 e hr).reg)

/-- **accounting**: every callback of the snapshot is invoked, skipped (found unregistered at its turn,
    `C09x_skipped_only_unregistered`) or still to do; when the line is finished each one was invoked or
    skipped, and exactly one of the two. -/
theorem C09x_accounting (P : Params) (s : St) (g : Ghost) (h : GReachable P (s, g)) :
    (∀ c ∈ g.snap, c ∈ g.invoked ∨ c ∈ g.skipped ∨ c ∈ todoL s.rpc) ∧
    (delivering s.rpc = none → ∀ c ∈ g.snap, (c ∈ g.invoked ∧ c ∉ g.skipped) ∨ (c ∈ g.skipped ∧ c ∉ g.invoked)) := by
  have hi := (ginv h).turns
  have hdis := (List.nodup_append.1 hi.nodup).2.2
  have hcover : ∀ c ∈ g.snap, c ∈ g.invoked ∨ c ∈ g.skipped ∨ c ∈ todoL s.rpc := fun c hc =>
    if hd : c ∈ g.invoked ++ g.skipped then (List.mem_append.1 hd).imp_right .inl
    else .inr (.inr ((hi.todo c).2 ⟨hc, hd⟩))
  refine ⟨hcover, fun hd c hc => ?_⟩
  rcases hcover c hc with h1 | h1 | h1
  · exact .inl ⟨h1, fun h2 => hdis c h1 c h2 rfl⟩
  · exact .inr ⟨h1, fun h2 => hdis c h2 c h1 rfl⟩
  · simp [todoL, hd] at h1

/-- `register` and `unregister` are enabled in every state for every thread (they never raise, never
    block), show nothing at the boundary, and change nothing but the registry: the reader's program
    counter, the port, the flags `alive`/`connected`, the queue, the sender and all pending calls are left
    as they are. -/
theorem C09x_reg_unreg_frame (P : Params) (s : St) (t : Tid) (cb : Nat) :
    (∃ m, step P s (.reg t cb) = some ({ s with msgCbs := m }, none)) ∧
    (∃ m, step P s (.unreg t cb) = some ({ s with msgCbs := m }, none)) :=
  ⟨⟨_, rfl⟩, ⟨_, rfl⟩⟩

/-- the enabled reader step, program point by program point -/
theorem C09x_delivery_steps (P : Params) (s : St) (h : Reachable P s) :
    (∀ ln, s.rpc = .deliver ln [] → step P s .r = some ({ s with rpc := .split }, none)) ∧
    (∀ ln todo c, s.rpc = .deliver ln todo → c ∈ todo → (step P s (.rCb c)).isSome = true) ∧
    (∀ ln cb todo, s.rpc = .inCb ln cb todo → s.rcall = .idle →
        step P s .cbRet = some ({ s with rpc := .deliver ln todo }, some (.cbRet cb))) ∧
    (∀ ln cb todo, s.rpc = .inCb ln cb todo → s.rcall ≠ .idle → (step P s (.u tidR)).isSome = true) := by
  refine ⟨fun ln hr => by simp [step, stepR, hr], fun ln todo c hr hc => ?_, fun ln cb todo hr hi => by simp [step, hr, hi],
    fun _ _ _ _ hi => ?_⟩
  · have : todo.contains c = true := by simpa using hc
    simp only [step, hr, this, if_true]
    split <;> rfl
  · -- the pending call's next step: a close() on the reader thread is on the branch that waits for nothing
    have hp := (callInv h).path tidR
    have e : upcOf s tidR = s.rcall := by simp [upcOf]
    rw [e] at hp
    simp only [step, stepU, e]
    cases hrc : s.rcall with
    | idle => exact absurd hrc hi
    | submitting text => dsimp only; split <;> rfl
    | returning => rfl
    | closing pc =>
      rw [hrc] at hp
      cases pc <;> simp [pathOk] at hp <;> simp [stepClose]

/-- **a delivery never blocks**: in every reachable state in which the reader is inside a delivery
    (at `deliver _ _` or inside a callback, `inCb _ _ _`) a step of the reader thread is enabled:
    the finishing step when nothing is left, the turn of ANY remaining callback of the snapshot
    (registered or not), the return of the callback when no API call is pending on the reader thread,
    and otherwise the next step of that API call (a `close()` made from inside a callback never waits
    for the lock or the join).  The registry `msgCbs` plays no part in this. -/
theorem C09x_delivery_never_blocks (P : Params) (s : St) (h : Reachable P s)
    (hd : delivering s.rpc ≠ none) :
    ∃ lab, readerLabel lab = true ∧ (step P s lab).isSome = true := by
  obtain ⟨h1, h2, h3, h4⟩ := C09x_delivery_steps P s h
  cases hr : s.rpc with
  | deliver ln todo =>
    cases todo with
    | nil => exact ⟨.r, rfl, by rw [h1 ln hr]; rfl⟩
    | cons c rest => exact ⟨.rCb c, rfl, h2 ln _ c hr (by simp)⟩
  | inCb ln cb todo =>
    by_cases hc : s.rcall = .idle
    · exact ⟨.cbRet, rfl, by rw [h3 ln cb todo hr hc]; rfl⟩
    · exact ⟨.u tidR, by simp [readerLabel], h4 ln cb todo hr hc⟩
  | _ => simp [hr, delivering] at hd

/-- **(un)registration does not disable the reader**: from a reachable state inside a delivery, after
    `register`/`unregister` of any callback by any thread the reader is at the same program point of the
    same delivery and again has an enabled step. -/
theorem C09x_reg_unreg_keeps_delivery_going (P : Params) (s : St) (h : Reachable P s)
    (hd : delivering s.rpc ≠ none) (t : Tid) (cb : Nat) (lab : Label)
    (hl : lab = .reg t cb ∨ lab = .unreg t cb) :
    ∃ s', step P s lab = some (s', none) ∧ s'.rpc = s.rpc ∧ s'.rcall = s.rcall ∧
      ∃ lab', readerLabel lab' = true ∧ (step P s' lab').isSome = true := by
  rcases hl with rfl | rfl
  · obtain ⟨m, hm⟩ := (C09x_reg_unreg_frame P s t cb).1
    exact ⟨_, hm, rfl, rfl, C09x_delivery_never_blocks P _ (h.step hm) hd⟩
  · obtain ⟨m, hm⟩ := (C09x_reg_unreg_frame P s t cb).2
    exact ⟨_, hm, rfl, rfl, C09x_delivery_never_blocks P _ (h.step hm) hd⟩

/-- **a delivery takes at most as many callback turns as the snapshot is long** (every turn is about a
    different callback of it) -/
theorem C09x_delivery_bounded (P : Params) (s : St) (g : Ghost) (h : GReachable P (s, g)) :
    g.invoked.length + g.skipped.length ≤ g.snap.length := by
  simpa using (ginv h).turns.nodup.length_le_of_subset (ginv h).turns.fromSnap

def demoP : Params := ⟨100, 1000, 2000, 500, 8⟩
def demoLine : List UInt8 := "@MAIN:VOL=1\r\n".toUTF8.toList

/-- connect, a caller registers callbacks 1 and 2, a complete line arrives and the reader takes it up to
    the point where it is about to take the snapshot -/
def demoUp : List Label :=
  [.startR, .r, .r, .r, .r, .r, .publish, .reg 10 1, .reg 10 2, .dev demoLine, .r, .rGet false, .r, .r, .r]

/-- after the snapshot: caller 11 registers callback 3; the reader picks 2 first; callback 2 unregisters
    itself (thread id 0 = the reader thread: re-entrant) and returns; then callback 1; the line is finished -/
def demoRest : List Label := [.reg 11 3, .rCb 2, .unreg 0 2, .cbRet, .rCb 1, .cbRet, .r]

/-- the state (with record) in which the reader is about to take the snapshot -/
def demoS0 : St × Ghost := (grun demoP ({}, {}) demoUp).getD ({}, {})
/-- the state after the delivery -/
def demoS1 : St × Ghost := (grun demoP demoS0 (.r :: demoRest)).getD ({}, {})

theorem demoS0_run : grun demoP ({}, {}) demoUp = some demoS0 :=
  (Option.getD_of_ne_none (Option.isSome_iff_ne_none.1 (by decide +kernel)) _).symm
theorem demoS1_run : grun demoP demoS0 (.r :: demoRest) = some demoS1 :=
  (Option.getD_of_ne_none (Option.isSome_iff_ne_none.1 (by decide +kernel)) _).symm

example : (demoS0.1.rpc, demoS0.1.msgCbs, demoS0.2) = (.line2 "@MAIN:VOL=1" false, [1, 2], {}) := by
  decide +kernel

/-- the snapshot is `[1, 2]`; both are invoked exactly once (2 first), nothing is skipped, although 2
    unregistered itself and 3 was registered meanwhile; 3 is registered but not invoked for this line -/
example : (demoS1.1.rpc, demoS1.1.msgCbs, demoS1.2) =
    (.split, [1, 3], ⟨1, "@MAIN:VOL=1", [1, 2], [2, 1], [], false⟩) := by
  decide +kernel

/-- the hypotheses of `C09x_not_lost_labels` hold for callback 1 on this execution, and the theorem
    yields that 1 was invoked for the line -/
example : 1 ∈ demoS1.2.invoked ∧ demoS1.2.line = "@MAIN:VOL=1" ∧ demoS1.2.snap = [1, 2] := by
  have h := C09x_not_lost_labels demoP demoS0.1 demoS0.2 "@MAIN:VOL=1" 1 demoRest demoS1.1 demoS1.2
    (GReachable.reachable ⟨demoUp, demoS0_run⟩) (by decide +kernel) (by decide +kernel) demoS1_run
    (by intro t hm; simp [demoRest] at hm) (by simp [demoRest, tidR])
  have h1 := h.2.2.1 (by decide +kernel)
  have h2 := h.2.2.2 (by decide +kernel)
  exact ⟨h1, h2.1, by rw [h2.2.1]; decide +kernel⟩

/-- the step-level theorems apply to the invocation of callback 1 in this execution: it happens in a
    state where 2 has been invoked already and is no longer registered -/
example :
    ((grun demoP demoS0 [.r, .reg 11 3, .rCb 2, .unreg 0 2, .cbRet]).bind (fun sg =>
      (step demoP sg.1 (.rCb 1)).map (fun r => (sg.1.msgCbs, sg.2.invoked, r.2)))) =
    some ([1, 3], [2], some (.msgCb 1 (parseLine "@MAIN:VOL=1"))) := by
  decide +kernel

/-- at most once is not trivial: callback 2 unregisters itself and is registered again by a caller while
    the line is still being delivered; the reader has no second turn for it (the label is not enabled) -/
example : (grun demoP demoS0 [.r, .rCb 2, .unreg 0 2, .reg 11 2, .cbRet, .rCb 2]).isSome = false := by
  decide +kernel
example : ((grun demoP demoS0 [.r, .rCb 2, .unreg 0 2, .reg 11 2, .cbRet, .rCb 1, .cbRet, .r]).map
    (fun sg => (sg.1.msgCbs, sg.2.invoked, sg.2.skipped))) = some ([1, 2], [2, 1], []) := by
  decide +kernel

/-- the side conditions of "not lost" are needed: callback 1 unregisters callback 2 before its turn —
    2 is skipped for this line -/
example : ((grun demoP demoS0 [.r, .rCb 1, .unreg 0 2, .cbRet, .rCb 2, .r]).map
    (fun sg => (sg.1.rpc, sg.1.msgCbs, sg.2.invoked, sg.2.skipped))) = some (.split, [1], [1], [2]) := by
  decide +kernel

/-- … and callback 1 calls `close()` (on the reader thread): the registry is forgotten, 2 is skipped; the
    reader is not blocked and finishes the line -/
example : ((grun demoP demoS0 [.r, .rCb 1, .callClose 0, .u 0, .u 0, .u 0, .u 0, .u 0, .cbRet, .rCb 2, .r]).map
    (fun sg => (sg.1.rpc, sg.1.msgCbs, sg.2.invoked, sg.2.skipped))) = some (.split, [], [1], [2]) := by
  decide +kernel

/-- a link fault during the delivery does not lose the line for the registered callbacks -/
example : ((grun demoP demoS0 [.r, .fault, .rCb 1, .cbRet, .rCb 2, .cbRet, .r]).map
    (fun sg => (sg.1.rpc, sg.2.invoked))) = some (.split, [1, 2]) := by
  decide +kernel

end Ynca.C09x
