import YncaVerif.Props.C01
/-! # C01 (extension) — "at most once" and "in order" spelled out on the wire itself, and an execution that
meets the hypotheses of `C01_quiescent_complete` with two callers (non-vacuity). -/
namespace Ynca.C01
open Ynca.L4

/-- **in order**: the user commands on the wire are an order-preserving sub-sequence of the submissions — so any
    two commands of one caller (of any callers) are written in the order they were submitted -/
theorem C01_wire_in_submission_order (P : Params) (s : St) (h : Reachable P s) :
    List.Sublist (wireCmds s.wire) (submittedCmds s) :=
  ((List.sublist_append_left _ _).trans (List.sublist_append_left _ _)).trans (C01_sublist P s h)

/-- **at most once, on the wire**: no submission (identified by its id) is written twice -/
theorem C01_wire_ids_nodup (P : Params) (s : St) (h : Reachable P s) : ((wireCmds s.wire).map (·.1)).Nodup :=
  ((C01_wire_in_submission_order P s h).map (·.1)).nodup (C01_ids_unique P s h)

/-- **text unchanged**: every user command on the wire is one of the submissions, id and text together -/
theorem C01_wire_cmd_was_submitted (P : Params) (s : St) (h : Reachable P s) :
    ∀ c ∈ wireCmds s.wire, c ∈ submittedCmds s :=
  fun _ hc => (C01_wire_in_submission_order P s h).subset hc

def demoP : Params := ⟨100, 1000, 2000, 500, 8⟩
/-- connect: the reader runs `connection_made` and blocks in `read`; the protocol is published -/
def demoUp : List Label := [.startR, .r, .r, .r, .r, .r, .r, .publish]
/-- callers 10 and 11 start a command each; 11 overtakes 10 at the queue -/
def demoCalls : List Label := [.call 10 "@MAIN:VOL=1", .call 11 "@MAIN:MUTE=On", .u 11, .u 10, .u 10, .u 11]
/-- the sender takes one item through get / classify / log / lock / write / unlock / sleep / wake -/
def demoSend : List Label := [.s, .s, .s, .s, .s, .s, .tick 100, .s]
def demoRun : List Label := demoUp ++ demoCalls ++ demoSend ++ demoSend ++ demoSend ++ demoSend

/-- two probes, then the two commands in the order of their enqueue (11 before 10), 100 apart; the sender is
    back in its idle wait with an empty queue and the reader has not begun `connection_lost`: the hypotheses of
    `C01_quiescent_complete` hold, and so does its conclusion -/
example : (run demoP {} demoRun).map (fun s => (s.wire.map (·.2.1), wireCmds s.wire, submittedCmds s)) =
    some ([probe, probe, "@MAIN:MUTE=On", "@MAIN:VOL=1"], [(0, "@MAIN:MUTE=On"), (1, "@MAIN:VOL=1")],
          [(0, "@MAIN:MUTE=On"), (1, "@MAIN:VOL=1")]) := by decide +kernel

example : (run demoP {} demoRun).map (fun s => (s.queue.isEmpty, s.spc, lossBegun s.rpc)) =
    some (true, .waitGet 1400, false) := by decide +kernel

end Ynca.C01
