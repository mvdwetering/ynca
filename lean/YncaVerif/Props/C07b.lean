import YncaVerif.Lemmas.Dialogue
import YncaVerif.Props.C07a
/-! # C07 — from the device to the accessors: L5 (dialogue with a sequential-responder device) composed with L7 (the API program)

L5 says what the reader has PROCESSED when the caller of a stage is woken (`woken_has_processed_answers`: every line of the
answer to every command of the stage — the barrier); L7 says what the API object makes of the messages its callback was
handed (`C07a_accessor_iff`).  Here the two are put together: for every device (`AnswerOk`: one `SYS:VERSION` line in answer to
the synchronisation query, none otherwise), every interleaving of sender, device and reader, every timing —
if the device's answer to the `AVAIL` query of `x` contains a value line for `x`, then after a normal return of `initialize()` the
accessor of `x` is set.  The one hypothesis that links the two models, `hheard`, is the connection's delivery contract (every
processed line is handed, parsed, to every registered callback: C02 / C09 over L1–L4). -/
namespace Ynca.C07b
open Ynca.L5 Ynca.L7

def availQuery (x : String) : String := "@" ++ x ++ ":AVAIL=?"

/-- the device announces `x`: a line of its answer to `x`'s `AVAIL` query is an `AVAIL` message for `x` -/
def Announces (answer : Answer) (x : String) : Prop :=
  ∃ l ∈ answer (availQuery x), (parseLine l).fn = some "AVAIL" ∧ (parseLine l).subunit = some x

/-- **barrier, with content**: at the moment the detection stage is woken, the announcement of every subunit whose query
    belongs to the stage is among the lines the reader has processed -/
theorem C07b_announced_is_processed (answer : Answer) (ha : AnswerOk answer) (s : D) (h : L5.Reachable answer s)
    (first count dl : Nat) (hw : s.stage = .waiting first count dl) (he : s.event = true)
    (i : Nat) (hi : i < first + count) (x : String) (hq : s.written[i]? = some (availQuery x)) (han : Announces answer x) :
    ∃ l ∈ s.emitted.take s.processed, (parseLine l).fn = some "AVAIL" ∧ (parseLine l).subunit = some x := by
  obtain ⟨l, hl, hf, hs⟩ := han
  exact ⟨l, woken_has_processed_answers answer ha s h first count dl hw he i hi _ hq l hl, hf, hs⟩

/-- **device → accessor**: the L5 state `s` is the dialogue at the moment the detection stage of this `initialize()` is woken,
    the L7 state `a` is the API object after its normal return; the API's callback was handed every line processed until then. -/
theorem C07b_announced_subunit_is_exposed (P : L7.Params) (a : A) (hr : L7.Reachable P a) (hready : a.phase = .ready)
    (answer : Answer) (ha : AnswerOk answer) (s : D) (h : L5.Reachable answer s)
    (first count dl : Nat) (hw : s.stage = .waiting first count dl) (he : s.event = true)
    (hheard : ∀ l ∈ s.emitted.take s.processed, parseLine l ∈ a.heard)
    (i : Nat) (hi : i < first + count) (x : String) (hq : s.written[i]? = some (availQuery x))
    (han : Announces answer x) (hx : x ∈ P.classIds) :
    x ∈ a.subunits := by
  obtain ⟨l, hl, hf, hs⟩ := C07b_announced_is_processed answer ha s h first count dl hw he i hi x hq han
  rw [C07a.C07a_accessor_iff P a hr hready x]
  exact Or.inr ⟨⟨parseLine l, hheard l hl, hf, hs⟩, hx⟩

/-- **accessor → device** (the converse): an accessor other than `SYS` is set only if some line handed to the API's callback
    during detection was an `AVAIL` message for it; when everything the callback was handed are lines the device emitted, and
    the device emits `AVAIL` lines for `x` only in answer to `x`'s query, the device announced `x` -/
theorem C07b_exposed_subunit_was_announced (P : L7.Params) (a : A) (hr : L7.Reachable P a) (hready : a.phase = .ready)
    (answer : Answer) (emitted : List String)
    (hfrom : ∀ m ∈ a.heard, ∃ l ∈ emitted, parseLine l = m)
    (x : String) (hx : x ≠ "SYS") (hmem : x ∈ a.subunits)
    (honly : ∀ l ∈ emitted, (parseLine l).fn = some "AVAIL" → (parseLine l).subunit = some x → l ∈ answer (availQuery x)) :
    Announces answer x := by
  rw [C07a.C07a_accessor_iff P a hr hready x] at hmem
  rcases hmem with h1 | ⟨⟨m, hm, hf, hs⟩, _⟩
  · exact absurd h1 hx
  · obtain ⟨l, hl, hlm⟩ := hfrom m hm
    subst hlm
    exact ⟨l, honly l hl hf hs, hf, hs⟩

/-! non-vacuity: a device that announces MAIN; the detection stage asks for MAIN and ZONE2 -/
def demoAnswer : Answer := fun q =>
  if q == versionQuery then ["@SYS:VERSION=1.0"] else if q == availQuery "MAIN" then ["@MAIN:AVAIL=Ready"] else ["@RESTRICTED"]

example : Announces demoAnswer "MAIN" := ⟨"@MAIN:AVAIL=Ready", by decide +kernel, by decide +kernel, by decide +kernel⟩

example : ((L5.run demoAnswer {} [.begin [availQuery "MAIN", availQuery "ZONE2"] 3500000, .write, .write, .write, .consume, .consume,
    .consume, .process, .process, .process]).map (fun s => (s.event, s.emitted.take s.processed))) =
    some (true, ["@MAIN:AVAIL=Ready", "@RESTRICTED", "@SYS:VERSION=1.0"]) := by decide +kernel

end Ynca.C07b
