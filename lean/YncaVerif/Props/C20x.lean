import YncaVerif.Lemmas.C20x
/-! # C20 (extension) — "no reply listed before the command that caused it"

A device can answer a command only after the command has been written to the port.  So the clause follows
from an ordering fact about the library alone, with the device left completely free:

  *if the last byte of a complete line was made available by the device (`Label.dev`) after a line had been
  written to the port, then in the unbounded log the `Send` entry of that written line precedes the
  `Received` entry of the complete line.*

The L4 model keeps `St.wire` (lines written), `St.log` (the unbounded log; the ring is its suffix,
`C20_ring_is_suffix`) and `St.rxLines` as ghost history, but not the moment at which a byte was fed.  That
moment is added as a ghost computed from the label history, outside the model (`Lemmas/C20x.lean`):

* `grun P s g ls` runs the model exactly like `run` and updates a `Ghost` next to it (`C20x_ghost_is_run`);
* `Ghost.fed` lists every byte fed by a `dev` label, oldest first, each stamped with `s.wire.length` of the
  state in which the `dev` step was taken (the number of lines written so far);
* `Ghost.raw` lists the complete lines (without CR LF) the reader's `split` step took out of its buffer, and
  `Ghost.stamps` the stamp of the last byte of each.

`C20x_stream_framing` shows that this ghost says what it is meant to say: the fed stream is exactly the lines
taken out, each followed by CR LF, followed by what is still in the reader's buffer and in the port's input
queue; `rxLines` are the decoded `raw` lines; and `stamps[j]` is the stamp carried by the byte at offset
`lineEnd raw j`, the LF that ends line `j`. -/
namespace Ynca.C20
open Ynca.L4

/-- the ghost run is the model run: same enabledness, same states -/
theorem C20x_ghost_is_run (P : Params) (s : St) (g : Ghost) (ls : List Label) :
    (grun P s g ls).map (·.1) = run P s ls := by
  rw [grun_eq]; exact runWith_fst ls s g

/-- … so every execution of the model has its ghost -/
theorem C20x_ghost_exists (P : Params) (s : St) (ls : List Label) (h : run P {} ls = some s) :
    ∃ g, grun P {} {} ls = some (s, g) := by
  obtain ⟨g, hg⟩ := run_runWith (upd := fun s l _ _ => gstep s l) {} h
  exact ⟨g, by rw [grun_eq]; exact hg⟩

/-- **the ghost is a faithful account of the byte stream**: along every execution
    * the bytes fed by the device are the lines taken out so far, each with its CR LF, followed by the reader's
      buffer and the port's input queue (nothing is lost, reordered or invented);
    * the lines the model reports in `rxLines` are the decodings of the ghost's raw lines;
    * there is one stamp per line;
    * the stamp of line `j` is the one carried by the fed byte at offset `lineEnd raw j`, and that byte is the
      LF that completes the line. -/
theorem C20x_stream_framing (P : Params) (ls : List Label) (s : St) (g : Ghost)
    (h : grun P {} {} ls = some (s, g)) :
    g.fed.map (·.1) = wireG CR LF g.raw (s.buffer ++ s.inbox) ∧
    s.rxLines = g.raw.map decodeLine ∧
    g.stamps.length = g.raw.length ∧
    ∀ j k, g.stamps[j]? = some k → g.fed[lineEnd g.raw j]? = some (LF, k) := by
  have hi := (ghost_invariants h).1
  exact ⟨hi.bytes, hi.lines, hi.slen, hi.ends⟩

/-- the wire is append-only: the lines written by the time of an intermediate state `s1` are an initial
    segment of the wire of every later state -/
theorem C20x_wire_grows (P : Params) (ls : List Label) (s1 s : St) (h : run P s1 ls = some s) :
    wireTexts s1 <+: wireTexts s := by
  obtain ⟨ext, he⟩ := run_wire_mono h
  exact ⟨ext.map (·.2.1), by simp [wireTexts, he]⟩

/-- the fed stream is append-only: offsets at or beyond `g1.fed.length` are bytes fed after `s1` -/
theorem C20x_fed_grows (P : Params) (ls : List Label) (s1 s : St) (g1 g : Ghost) (hr : Reachable P s1)
    (h : grun P s1 g1 ls = some (s, g)) : g1.fed <+: g.fed := by
  obtain ⟨new, hf, _⟩ := (since_run h).2
  exact ⟨new, hf.symm⟩

/-- **every `Received` entry comes after the `Send` entries of everything written before its last byte was
    fed.**  Take any execution and any `Received r` entry of the final (unbounded) log, `pre` being the entries
    before it; it is the `j`-th `Received` entry, `j = (recvsOf pre).length`.  Then
    * `r` is the decoding of the `j`-th line `p` taken out of the byte stream;
    * that line has a stamp `k`: its last byte, the LF at offset `lineEnd g.raw j` of the fed stream, was fed
      when `k` lines had been written;
    * those `k` lines are on the wire (`k ≤ s.wire.length`), and their texts, in transmission order, are an
      initial segment of the `Send` entries listed before the `Received` entry. -/
theorem C20x_received_after_stamped_sends (P : Params) (ls : List Label) (s : St) (g : Ghost)
    (h : grun P {} {} ls = some (s, g))
    (pre post : List LogEntry) (r : String) (hlog : s.log = pre ++ .received r :: post) :
    ∃ p k, g.raw[(recvsOf pre).length]? = some p ∧ decodeLine p = r ∧
      g.stamps[(recvsOf pre).length]? = some k ∧
      g.fed[lineEnd g.raw (recvsOf pre).length]? = some (LF, k) ∧
      k ≤ s.wire.length ∧ (wireTexts s).take k <+: sendsOf pre := by
  have hreach : Reachable P s := Reachable.run ⟨[], rfl⟩ (runWith_run (grun_eq .. ▸ h))
  have hi := ghost_invariants h
  -- the entry is the record of line number `j = (recvsOf pre).length`, which has its stamp
  have hlt : (recvsOf pre).length < g.stamps.length := by
    have := hi.stamped hreach
    rw [hlog, recvsOf_decomp, List.length_append, List.length_cons] at this
    omega
  have hraw : (recvsOf pre).length < g.raw.length := hi.1.slen ▸ hlt
  obtain ⟨extra, he, _⟩ := receives_faithful hreach
  have hj : (s.rxLines)[(recvsOf pre).length]? = some r := by
    rw [he, show logRecvs s = recvsOf s.log from rfl, hlog, recvsOf_decomp, List.append_assoc]; simp
  rw [hi.1.lines, List.getElem?_map, List.getElem?_eq_getElem hraw] at hj
  have hk := List.getElem?_eq_getElem hlt
  have hk2 := hi.2.fedLe _ (List.mem_of_getElem? (hi.1.ends _ _ hk))
  refine ⟨_, _, List.getElem?_eq_getElem hraw, Option.some.inj hj, hk, hi.1.ends _ _ hk, hk2, ?_⟩
  -- the first `k` lines of the wire are the first `k` `Send` entries, and those are listed in `pre`
  have hk1 := hi.2.order pre r post hlog _ hk
  obtain ⟨ex, hs1, _⟩ := sends_faithful hreach
  rw [show logSends s = sendsOf s.log from rfl, hlog, sendsOf_decomp] at hs1
  generalize g.stamps[(recvsOf pre).length] = k at hk1 hk2
  have e1 : (wireTexts s).take k = (wireTexts s ++ ex).take k := by
    rw [List.take_append_of_le_length (by simpa [wireTexts] using hk2)]
  rw [e1, ← hs1, List.take_append_of_le_length hk1]
  exact List.take_prefix _ _

/-- **no reply is listed before the command that caused it.**  Split any execution at an intermediate state
    `s1` (ghost `g1`) and let it run on to `s` (ghost `g`).  Take a `Received r` entry of the final log, `pre`
    being the entries before it, whose line was completed after `s1`: the offset of its last byte in the fed
    stream is at or beyond `g1.fed.length`, i.e. that byte was fed by a `dev` label of `ls2`.  Then every line
    that was on the wire at `s1` — every command and probe written before that byte was fed — has its `Send`
    entry before the `Received` entry: the texts written by `s1`, in transmission order, are an initial
    segment of the `Send` entries of `pre`. -/
theorem C20x_no_reply_before_command (P : Params) (ls1 ls2 : List Label) (s1 s : St) (g1 g : Ghost)
    (h1 : grun P {} {} ls1 = some (s1, g1)) (h2 : grun P s1 g1 ls2 = some (s, g))
    (pre post : List LogEntry) (r : String) (hlog : s.log = pre ++ .received r :: post)
    (hlate : g1.fed.length ≤ lineEnd g.raw (recvsOf pre).length) :
    wireTexts s1 <+: sendsOf pre := by
  have h : grun P {} {} (ls1 ++ ls2) = some (s, g) := by
    rw [grun_eq] at h1 h2 ⊢
    rw [runWith_append, h1]; exact h2
  obtain ⟨p, k, _, _, _, hfed, _, hpre⟩ := C20x_received_after_stamped_sends P _ s g h pre post r hlog
  obtain ⟨⟨ext, hext⟩, new, hf, hnew⟩ := since_run h2
  -- the last byte of the line is one of those fed since `s1`
  have hk : s1.wire.length ≤ k := by
    rw [hf, List.getElem?_append_right hlate] at hfed
    exact hnew _ (List.mem_of_getElem? hfed)
  refine List.IsPrefix.trans ?_ hpre
  have : wireTexts s = wireTexts s1 ++ ext.map (·.2.1) := by simp [wireTexts, hext]
  rw [this, List.take_append]
  have hlen : (wireTexts s1).length = s1.wire.length := by simp [wireTexts]
  rw [List.take_of_length_le (by omega)]
  exact List.prefix_append _ _

/-- the same, entry by entry: every line written by `s1` has a `Send` entry among the entries listed before
    the `Received` entry, at the same position among the `Send` entries as on the wire -/
theorem C20x_command_listed_first (P : Params) (ls1 ls2 : List Label) (s1 s : St) (g1 g : Ghost)
    (h1 : grun P {} {} ls1 = some (s1, g1)) (h2 : grun P s1 g1 ls2 = some (s, g))
    (pre post : List LogEntry) (r : String) (hlog : s.log = pre ++ .received r :: post)
    (hlate : g1.fed.length ≤ lineEnd g.raw (recvsOf pre).length) :
    ∀ (i : Nat) (c : String), (wireTexts s1)[i]? = some c → (sendsOf pre)[i]? = some c ∧ LogEntry.send c ∈ pre := by
  intro i c hc
  obtain ⟨rest, hrest⟩ := C20x_no_reply_before_command P ls1 ls2 s1 s g1 g h1 h2 pre post r hlog hlate
  have hi : (sendsOf pre)[i]? = some c := by
    rw [← hrest]; exact getElem?_append_of_some (wireTexts s1) rest i c hc
  refine ⟨hi, ?_⟩
  have hm := List.mem_of_getElem? hi
  simp only [sendsOf, List.mem_filterMap] at hm
  obtain ⟨e, he, hec⟩ := hm
  cases e with
  | send t => simp at hec; subst hec; exact he
  | received t => simp at hec

def demoP : Params := ⟨100, 1000, 2000, 500, 8⟩
def demoReply : List UInt8 := "@MAIN:VOL=1\r\n".toUTF8.toList

/-- connect (the reader ends up blocked in `read`), publish, caller 10 submits `@MAIN:VOL=1` and returns -/
def demoUp : List Label :=
  [.startR, .r, .r, .r, .r, .r, .r, .publish, .call 10 "@MAIN:VOL=1", .u 10, .u 10]
/-- the sender takes one start-up probe through get / flag / log / lock / write / unlock / sleep / wake -/
def demoProbe : List Label := [.s, .s, .s, .s, .s, .s, .tick 100, .s]
/-- the sender takes the command out of the queue and classifies it … -/
def demoTake : List Label := [.s, .s]
/-- … appends its `Send` entry, takes the lock and writes it -/
def demoWrite : List Label := [.s, .s, .s]
/-- the device feeds a complete line; the reader (blocked in a 1-byte `read`) gets the first byte, finds no
    complete line, reads the rest, takes the line out of its buffer and logs it -/
def demoRecv : List Label := [.dev demoReply, .rGet false, .r, .r, .rGet false, .r, .r]

/-- the state `s1` just after the command has been written: three lines on the wire, nothing fed yet -/
example : (grun demoP {} {} (demoUp ++ demoProbe ++ demoProbe ++ demoTake ++ demoWrite)).map
      (fun x => (wireTexts x.1, x.2.fed.length)) =
    some ([probe, probe, "@MAIN:VOL=1"], 0) := by decide +kernel

/-- the reply is fed after that: the log lists the three `Send` entries, then the `Received` entry; the line
    has stamp 3 and its last byte sits at offset 12 ≥ 0 of the fed stream -/
example : (grun demoP {} {} (demoUp ++ demoProbe ++ demoProbe ++ demoTake ++ demoWrite ++ demoRecv)).map
      (fun x => (x.1.log, x.2.stamps, lineEnd x.2.raw 0, x.2.fed[12]?)) =
    some ([.send probe, .send probe, .send "@MAIN:VOL=1", .received "@MAIN:VOL=1"], [3], 12, some (LF, 3)) := by
  decide +kernel

/-- without the timing hypothesis the order is not guaranteed (and need not be: such a line cannot be a reply
    to the command): a line fed while the sender is about to log the command is listed before it, with
    stamp 2 -/
example : (grun demoP {} {} (demoUp ++ demoProbe ++ demoProbe ++ demoTake ++ demoRecv ++ demoWrite)).map
      (fun x => (x.1.log, x.2.stamps)) =
    some ([.send probe, .send probe, .received "@MAIN:VOL=1", .send "@MAIN:VOL=1"], [2]) := by
  decide +kernel

end Ynca.C20
