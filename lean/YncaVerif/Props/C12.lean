import YncaVerif.Lemmas.C12
/-! # C12 — the device never sees a silent gap longer than the keep-alive interval
Over the L4 model with urgency (time passes only while no library thread can move). -/
namespace Ynca.C12
open Ynca.L4 Ynca.L4.C12L

/-- the connection is up and healthy: sender running, reader not in `connection_lost`, no close() begun
    (neither one that cleared the disconnect callback, `closeStarted`, nor one entered while `connect()` had
    not completed, `closeUnpub` — that one skips the clearing step but stops the transport all the same),
    no write error -/
def Up (s : St) : Prop :=
  s.spc ≠ .notStarted ∧ s.spc ≠ .done ∧ s.spc ≠ .dead ∧ lossBegun s.rpc = false ∧
  s.closeStarted = false ∧ s.closeUnpub = false ∧ s.writeFault = false ∧ s.portOpen = true

/-- the conjunct `closeUnpub = false` of `Up` costs nothing once `connect()` has returned: a close() can take the
    unpublished path only while `_protocol` is unassigned, so on a published connection on which no such close()
    was entered before, none is ever entered (both facts are preserved by every step) -/
theorem C12_no_unpublished_close_once_published (P : Params) (s s' : St) (l : Label) (o : Option Obs)
    (hp : s.published = true) (hu : s.closeUnpub = false) (h : step P s l = some (s', o)) :
    s'.published = true ∧ s'.closeUnpub = false := by
  cases step_sound h with
  | closeUnpubR _ hn | closeUnpub _ _ hn => rw [hp] at hn; cases hn
  | publish => exact ⟨rfl, hu⟩
  | s h | r h | c _ _ h => cases h <;> exact ⟨hp, hu⟩
  | _ => exact ⟨hp, hu⟩

/-- **gap**: while the connection is up, the time since the last transmission (since the connection was
    made, before the first one) never exceeds one command spacing plus the keep-alive interval -/
theorem C12_gap (P : Params) (s : St) (h : Reachable P s) (hup : Up s) :
    s.now ≤ lastTx s + P.spacing + P.kaInterval := by
  obtain ⟨hn, hd, hx, hg⟩ := hup
  have hb := I4_inv h hg
  rw [lastTx_eq]
  cases hpc : s.spc with
  | notStarted => exact absurd hpc hn
  | done => exact absurd hpc hd
  | dead => exact absurd hpc hx
  | _ => simp only [hpc, gapB] at hb; omega

/-- instantiated with the protocol's numbers as explicit hypotheses: at most 30.1 s -/
theorem C12_gap_30s (P : Params) (hP : P.kaInterval + P.spacing ≤ 30100000) (s : St) (h : Reachable P s) (hup : Up s) :
    s.now ≤ lastTx s + 30100000 := by
  have := C12_gap P s h hup; omega

/-- **two probes first**: as long as the reader has not begun `connection_lost`, the first two
    transmissions of a connection are keep-alive probes.  (Without the hypothesis the statement is false:
    the drain loop of `connection_lost` may discard the two queued keep-alives before the sender has taken
    them, and a command submitted afterwards is then the first thing on the wire.) -/
theorem C12_two_probes (P : Params) (s : St) (h : Reachable P s) (hl : lossBegun s.rpc = false) :
    ∀ e ∈ s.wire.take 2, e.2.2 = none ∧ e.2.1 = probe := by
  intro e he
  simpa [isP] using (I6_inv h hl).1 e he

end Ynca.C12
