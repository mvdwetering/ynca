import YncaVerif.Lemmas.C15
/-! # C15 — an unexpected disconnect is reported exactly once and ends all activity (L4 model) -/
namespace Ynca.C15
open Ynca.L4

/-- **at most once** in every execution -/
theorem C15_at_most_once (P : Params) (s : St) (h : Reachable P s) : s.discCalls ≤ 1 := by
  have := (discInv h).once
  omega

/-- **exactly once** when the reader has finished `connection_lost` and no close() cleared the callback -/
theorem C15_exactly_once (P : Params) (s : St) (h : Reachable P s) (hd : s.rpc = .done) (hc : s.closeStarted = false) :
    s.discCalls = 1 := by
  simpa [hc] using (discInv h).called (.inr (.inr hd))

/-- **not connected** from the first step of `connection_lost` on -/
theorem C15_not_connected (P : Params) (s : St) (h : Reachable P s)
    (hl : lossBegun s.rpc = true) (h0 : s.rpc ≠ .lost 0) : s.connected = false ∧ s.alive = false :=
  (discInv h).down hl h0

/-- **no delivery afterwards**: once `connection_lost` has begun no message callback is ever started -/
theorem C15_no_delivery_after (P : Params) (s s' : St) (l : Label) (cb : Nat) (m : Msg)
    (hl : lossBegun s.rpc = true) (h : step P s l = some (s', some (.msgCb cb m))) : False := by
  obtain ⟨ln, todo, hp, _⟩ := (step_sound h).msgCb_inv
  rw [hp] at hl; cases hl

/-- `connection_lost` is irreversible -/
theorem C15_loss_is_final (P : Params) (s s' : St) (l : Label) (o : Option Obs)
    (hl : lossBegun s.rpc = true) (h : step P s l = some (s', o)) : lossBegun s'.rpc = true :=
  (step_sound h).later.loss hl

/-- **queued commands are discarded**: when the reader has posted the exit marker, the queue holds nothing
    that was queued before the loss began except what the sender grabbed itself (the queue was drained to
    empty before the marker was posted) -/
theorem C15_drained (P : Params) (s s' : St) (o : Option Obs) (h2 : s.rpc = .lost 1) (hq : s.queue = [])
    (h : step P s .r = some (s', o)) : s'.rpc = .lost 2 ∧ s'.queue = [] := by
  have at1 : ∀ {r}, s.rpc = r → r = .lost 1 := fun h => h.symm.trans h2
  clear h2
  cases step_sound h with
  | r h =>
    cases h with
    | drained => exact ⟨rfl, hq⟩
    | drain _ hx => exact nomatch hq.symm.trans hx
    | _ => cases at1 (by assumption)

end Ynca.C15
