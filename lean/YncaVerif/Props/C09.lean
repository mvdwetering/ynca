import YncaVerif.Lemmas.C09
/-! # C09 — each reported value notifies every update callback exactly once, safely (subunit level)

`recv` is delivery with inert callbacks, `recvScripted` delivery with callbacks that re-entrantly
register / unregister callbacks or close the subunit (`script cb` = what callback `cb` does when
invoked).  Concurrent mutation from other threads and the message-level callbacks of the connection
are covered by the L4 model. -/
namespace Ynca.C09

/-- message `m` reports value `val` for modelled function `f` of `st`'s subunit -/
abbrev Reports := @Ynca.Reports

/-- **exactly once, after the cache update**: an initialised, open subunit invokes every registered
    callback exactly once (in registration order) with the protocol name and the decoded value, and the
    cache already holds that value -/
theorem C09_exactly_once (tbls : List EnumTbl) (ex : Exotic) (st : SubSt) (m : Msg) (f : String) (val : Val)
    (hinit : st.initialized = true) (hopen : st.closed = false) (hr : Reports tbls ex st m f val) :
    (recv tbls ex st m).calls = st.calls ++ st.cbs.map (fun cb => ⟨cb, f, val⟩) ∧
    cacheGet (recv tbls ex st m).cache f = some val := by
  have hr := report_eq_some.mpr hr
  constructor
  · rw [recv_calls, if_pos ⟨hopen, hinit⟩, hr]
  · rw [recv_cache tbls ex hopen, hr]
    exact (cacheGet_cacheSet ..).trans (if_pos rfl)

/-- **filter**: no callback for error replies, other subunits, unknown functions, missing or undecodable
    values, before initialisation has completed, or after close -/
theorem C09_filter (tbls : List EnumTbl) (ex : Exotic) (st : SubSt) (m : Msg)
    (h : st.initialized = false ∨ st.closed = true ∨ ¬ ∃ f val, Reports tbls ex st m f val) :
    (recv tbls ex st m).calls = st.calls := by
  rw [recv_calls]
  split
  · rename_i ho
    cases hr : report tbls ex st.cls m with
    | none => rfl
    | some p =>
      rcases h with h | h | h
      · rw [ho.2] at h; cases h
      · rw [ho.1] at h; cases h
      · exact absurd ⟨p.1, p.2, report_eq_some.mp hr⟩ h
  · rfl

/-- **order**: invocations are only ever appended, in message arrival order -/
theorem C09_order (tbls : List EnumTbl) (ex : Exotic) (st : SubSt) (h : List Msg) :
    ∃ more, (h.foldl (recv tbls ex) st).calls = st.calls ++ more :=
  (foldl_recv_calls_prefix tbls ex st h).imp fun _ => And.left

/-- **unregistered / closed**: after `unregister` a callback is not invoked any more; after `close` none is -/
theorem C09_unregistered (tbls : List EnumTbl) (ex : Exotic) (st : SubSt) (cb : Nat) (h : List Msg) :
    ∀ c ∈ ((h.foldl (recv tbls ex) (unregisterCb st cb)).calls.drop st.calls.length), c.cb ≠ cb := by
  obtain ⟨more, hm, hcbs⟩ := foldl_recv_calls_prefix tbls ex (unregisterCb st cb) h
  rw [hm, show (unregisterCb st cb).calls = st.calls from rfl, List.drop_left]
  intro c hc hcc
  simpa [unregisterCb, hcc] using hcbs c hc

theorem C09_closed (tbls : List EnumTbl) (ex : Exotic) (st : SubSt) (h : List Msg) :
    (h.foldl (recv tbls ex) (closeSub st)).calls = st.calls := by
  rw [foldl_recv_of_closed tbls ex (st := closeSub st) rfl]; rfl

/-- a callback stays registered during a delivery: no callback's script unregisters it or closes the subunit -/
abbrev StaysRegistered := @Ynca.StaysRegistered

/-- **mutation safe (re-entrant)**: whatever the callbacks do (register, unregister, close — any scripts),
    every callback that was registered when the delivery began and stays registered is invoked exactly
    once for the message, a callback outside the snapshot is not invoked, and nobody is invoked twice -/
theorem C09_mutation_safe (tbls : List EnumTbl) (ex : Exotic) (script : Nat → List CbOp)
    (st : SubSt) (m : Msg) (f : String) (val : Val)
    (hinit : st.initialized = true) (hopen : st.closed = false) (hnd : st.cbs.Nodup)
    (hr : Reports tbls ex st m f val) :
    let st' := recvScripted tbls ex script st m
    let new := st'.calls.drop st.calls.length
    st'.calls.take st.calls.length = st.calls ∧
    (∀ c ∈ new, c.fn = f ∧ c.val = val ∧ c.cb ∈ st.cbs) ∧
    (new.map (·.cb)).Nodup ∧
    (∀ cb ∈ st.cbs, StaysRegistered script st.cbs cb → (⟨cb, f, val⟩ : CbCall) ∈ new) := by
  obtain ⟨inv, hsub, hcalls, hinv⟩ :=
    deliverSnapshot_calls script f val st.cbs { noteSync st m with cache := cacheSet st.cache f val }
  have hcalls : (recvScripted tbls ex script st m).calls = st.calls ++ inv.map (fun cb => ⟨cb, f, val⟩) := by
    rw [recvScripted_eq, if_neg (by simp [hopen]), report_eq_some.mpr hr]
    dsimp only
    rw [if_pos hinit]
    exact hcalls
  dsimp only
  rw [hcalls, List.take_left, List.drop_left]
  refine ⟨rfl, fun c hc => ?_, ?_, fun cb hcb hstay => List.mem_map_of_mem (hinv cb hcb hcb hopen hstay)⟩
  · obtain ⟨cb, hcb, rfl⟩ := List.mem_map.mp hc
    exact ⟨rfl, rfl, hsub.subset hcb⟩
  · rw [List.map_map]
    exact (List.map_id inv).symm ▸ hsub.nodup hnd

/-- with inert callbacks the scripted delivery is the plain one -/
theorem C09_scripted_inert (tbls : List EnumTbl) (ex : Exotic) (st : SubSt) (m : Msg) (hnd : st.cbs.Nodup) :
    recvScripted tbls ex (fun _ => []) st m = recv tbls ex st m := by
  have _ := hnd  -- not needed: a walk over the registered callbacks invokes them all, distinct or not
  rw [recvScripted_eq, recv_eq]
  split
  · rfl
  rename_i hopen
  cases report tbls ex st.cls m with
  | none => rfl
  | some p =>
    dsimp only
    split
    · exact deliverSnapshot_inert _ _ _ _ (Bool.eq_false_iff.mpr hopen) fun _ h => h
    · rfl

end Ynca.C09
