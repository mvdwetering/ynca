import YncaVerif.Lemmas.C06
import YncaVerif.Gen.Functions
/-! # C06 — subunit initialisation asks each query once (query-list part)

`initQueries c` is the deduplicating loop of `SubunitBase.initialize` over the function handlers;
`initSends c` the GETs it transmits.  The barrier / time-out part of C06 lives in the timed
dialogue model (Props/C06b.lean). -/
namespace Ynca.C06

/-- the query a function is initialised through: its group (`init=`) or its own name -/
def queryOf (f : Fn) : String := f.init.getD f.name

/-- **each distinct initial query exactly once** -/
theorem C06_queries_nodup (c : Cls) : (initQueries c).Nodup := by
  rw [initQueries_eq_eraseDups]
  exact nodup_eraseDups _ _ (Nat.le_refl _)

/-- **complete**: the query of every initialisable function is requested -/
theorem C06_queries_complete (c : Cls) (f : Fn) (hf : f ∈ c.fns) (h : f.noInit = false) :
    queryOf f ∈ initQueries c := by
  rw [initQueries_eq_eraseDups, List.mem_eraseDups]
  exact List.mem_map_of_mem (List.mem_filter.mpr ⟨hf, by rw [h]; rfl⟩)

/-- **nothing else**: every requested query is the query of some initialisable function; in particular a
    function excluded from initialisation is never queried under its own name unless that name is
    another function's group -/
theorem C06_queries_sound (c : Cls) (q : String) (hq : q ∈ initQueries c) :
    ∃ f ∈ c.fns, f.noInit = false ∧ queryOf f = q := by
  rw [initQueries_eq_eraseDups, List.mem_eraseDups, List.mem_map] at hq
  obtain ⟨f, hf, rfl⟩ := hq
  obtain ⟨hf, hn⟩ := List.mem_filter.mp hf
  exact ⟨f, hf, by simpa using hn, rfl⟩

/-- order: queries appear in the order of the first function that needs them -/
theorem C06_queries_order (c : Cls) :
    initQueries c = ((c.fns.filter (fun f => !f.noInit)).map queryOf).eraseDups := initQueries_eq_eraseDups c

/-- **sync query last and once**: the transmitted GETs are the queries addressed to this subunit
    followed by exactly one `SYS:VERSION` -/
theorem C06_sends (c : Cls) :
    initSends c = (initQueries c).map (fun q => Sent.get c.id q) ++ [Sent.get "SYS" "VERSION"] := rfl

/-- on the regenerated tables no class queries VERSION itself (SYS excludes it from initialisation), so
    the sync query occurs exactly once -/
def versionOnlyAsSync (cs : List Cls) : Bool :=
  cs.all (fun c => !((initSends c).dropLast.contains (Sent.get "SYS" "VERSION")))

/-- only a class with id SYS and an initialisable function queried as VERSION could ask the sync query early -/
theorem versionOnlyAsSync_of {cs : List Cls}
    (h : cs.all (fun c => c.id != "SYS" || c.fns.all (fun f => f.noInit || queryOf f != "VERSION")) = true) :
    versionOnlyAsSync cs = true := by
  simp only [versionOnlyAsSync, List.all_eq_true, Bool.not_eq_true', Bool.or_eq_true, bne_iff_ne] at h ⊢
  intro c hc
  rw [C06_sends, List.dropLast_concat, ← Bool.not_eq_true, List.contains_iff_mem, List.mem_map]
  rintro ⟨q, hq, heq⟩
  obtain ⟨f, hf, hn, rfl⟩ := C06_queries_sound c q hq
  injection heq with hid hv
  rcases h c hc with h | h
  · exact h hid
  · rcases h f hf with h | h
    · rw [hn] at h; cases h
    · exact h hv

theorem C06_version_once : versionOnlyAsSync Gen.classes = true :=
  versionOnlyAsSync_of (by decide +kernel)

example : initQueries Gen.cls_Tun = ["AMFREQ", "AVAIL", "BAND", "FMFREQ", "PRESET", "RDSINFO"] := by decide +kernel
end Ynca.C06
