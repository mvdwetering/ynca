import YncaVerif.Lemmas.ApiTimed
import YncaVerif.Gen.Consts
import YncaVerif.Gen.Functions
/-! # C14 — `initialize()` ends within a bounded time, whatever happens (L7t, Model/ApiTimed.lean)

The budget: with `D = 2 s + 5·spacing·N` the longest single wait (no stage submits more than `N` commands) and one object per class at
most, `initialize()` has returned or raised by `t0 + D·(2 + number of classes)` — for every device, every delivery of messages, every
outcome of every stage, every timing.  The clock of one stage is L5's (`C06_bounded`, `C06_timeout_enabled`), validated on real runs by
the C06 monitor's `timeout-bound` rule; L7t composes the stages.  `C14t_projects_to_L7`: what L7t adds to L7 are constraints only — every
L7t execution is an L7 execution, so L7's theorems and its correspondence with the code carry over. -/
namespace Ynca.C14t
open Ynca.L7

/-- every L7t execution is an L7 execution (the `construct` labels erased) -/
theorem C14t_projects_to_L7 (P : Params) (N : Nat) (s : T) (h : ReachableT P N s) : L7.Reachable P s.a :=
  have ⟨ls, hr⟩ := h
  ⟨eraseT ls, runT_project P N ls {} s hr⟩

/-- the budget in terms of the parameters only -/
def budget (P : Params) (N : Nat) : Nat := D P N * (2 + P.classIds.length)

theorem B_le_budget (P : Params) (N t0 : Nat) (av : List String) (h : av.Nodup) :
    B P N t0 (plan P.classIds av).length ≤ t0 + budget P N := by
  have hl := plan_length_le P.classIds av h
  have := B_mono P N t0 hl
  unfold B budget at *
  have e : 1 + (P.classIds.length + 1) = 2 + P.classIds.length := by omega
  rw [e] at this
  exact this

/-- **bounded**: when `initialize()` has returned or raised, it did so within the budget -/
theorem C14t_done_within_budget (P : Params) (N : Nat) (s : T) (h : ReachableT P N s)
    (hd : s.a.phase = .ready ∨ s.a.phase = .failed) :
    ∃ t, s.doneAt = some t ∧ t ≤ s.t0 + budget P N := by
  obtain ⟨hI, hT⟩ := reachable_tinv P N s h
  unfold TInv at hT
  rcases hd with hd | hd <;>
  · rw [hd] at hT
    obtain ⟨t, ht, hle⟩ := hT
    exact ⟨t, ht, Nat.le_trans hle (B_le_budget P N s.t0 s.a.avail hI.nodup)⟩

/-- **never hangs**: while `initialize()` is in progress the clock has not passed the budget -/
theorem C14t_in_progress_within_budget (P : Params) (N : Nat) (s : T) (h : ReachableT P N s)
    (hp : s.a.phase = .enqueueing ∨ (∃ dl, s.a.phase = .detecting dl) ∨ ∃ todo, s.a.phase = .building todo) :
    s.a.now ≤ s.t0 + budget P N := by
  obtain ⟨hI, hT⟩ := reachable_tinv P N s h
  have hbud := B_le_budget P N s.t0 s.a.avail hI.nodup
  have hmono := fun k (hk : k ≤ _) => Nat.le_trans (B_mono P N s.t0 hk) hbud
  have hph := hI.phase
  unfold TInv at hT
  rcases hp with hp | ⟨dl, hp⟩ | ⟨todo, hp⟩ <;> rw [hp] at hT hph
  · exact hT.1 ▸ Nat.le_add_right ..
  · have := hmono 0 (Nat.zero_le _)
    rw [B_zero] at this
    exact Nat.le_trans hph.2 (Nat.le_trans hT.1 this)
  · have htodo : 1 ≤ todo.length := List.length_pos_iff.mpr hph.2.2.1
    rw [TInvAt] at hT
    have := hmono s.built
    split at hT <;> omega

/-- in progress there is always something other than waiting for ever: between two objects and while submitting, no time passes at all;
    a running wait cannot be overrun -/
theorem C14t_clock_is_urgent (P : Params) (N : Nat) (s : T) (d : Nat) :
    (s.a.phase = .enqueueing → stepT P N s (.base (.tick d)) = none) ∧
    (∀ todo, s.a.phase = .building todo → s.objDl = none → stepT P N s (.base (.tick d)) = none) ∧
    (∀ todo dl, s.a.phase = .building todo → s.objDl = some dl → dl < s.a.now + d → stepT P N s (.base (.tick d)) = none) := by
  refine ⟨?_, ?_, ?_⟩
  · intro hp; simp [stepT, hp]
  · intro todo hp hn; simp [stepT, hp, hn]
  · intro todo dl hp hs hlt
    simp [stepT, hp, hs]
    intro hle; omega

/-- **no time-lock, no dead end**: while `initialize()` is in progress some step other than the passage of time is enabled, or time can
    pass up to the running wait's deadline (at which the time-out is enabled) -/
theorem C14t_always_a_step (P : Params) (N : Nat) (s : T) (h : ReachableT P N s)
    (hp : s.a.phase = .enqueueing ∨ (∃ dl, s.a.phase = .detecting dl) ∨ ∃ todo, s.a.phase = .building todo) :
    (∃ l, (∀ d, l ≠ .base (.tick d)) ∧ (stepT P N s l).isSome) ∨
    (∃ dl, s.a.phase = .detecting dl ∧ s.a.now < dl ∧ (stepT P N s (.base (.tick (dl - s.a.now)))).isSome) := by
  have hph := (reachable_inv P s.a (C14t_projects_to_L7 P N s h)).phase
  rcases hp with hp | ⟨dl, hp⟩ | ⟨todo, hp⟩
  · left
    refine ⟨.base (.wait 0), by intro d; simp, ?_⟩
    simp [stepT, step, hp]
  · by_cases he : s.a.event = true
    · left
      refine ⟨.base .wake, by intro d; simp, ?_⟩
      simp [stepT, step, hp, he]
    · by_cases hd : dl ≤ s.a.now
      · left
        refine ⟨.base .timeout, by intro d; simp, ?_⟩
        simp [stepT, step, hp, hd]
      · right
        refine ⟨dl, hp, by omega, ?_⟩
        have : s.a.now + (dl - s.a.now) ≤ dl := by omega
        simp [stepT, step, hp, he, this]
  · left
    rw [hp] at hph
    cases hdl : s.objDl with
    | none =>
      cases todo with
      | nil => exact absurd rfl hph.2.2.1
      | cons i rest =>
        refine ⟨.construct 0, by intro d; simp, ?_⟩
        simp [stepT, hp, hdl]
    | some d0 =>
      cases todo with
      | nil => exact absurd rfl hph.2.2.1
      | cons i rest =>
        refine ⟨.base .subunitOk, by intro d; simp, ?_⟩
        simp [stepT, step, hp, hdl]

def realParams : Params := { classIds := Gen.classes.map (·.id), perCmdUs := 5 * Gen.spacingUs }

/-- no stage of the real library submits more than 120 commands (the detection stage submits one per subunit id and the sync query; a subunit
    object one per distinct initial query and the sync query) -/
theorem C14t_stage_sizes : Gen.subunitIds.length + 1 ≤ 120 ∧
    Gen.classes.all (fun c => c.fns.length + 1 ≤ 120) = true := by decide +kernel

/-- the budget of the real library, in microseconds: (2 s + 0.5 s · 120) · (2 + 23) = 1 550 s — a finite number, which is the point -/
example : budget realParams 120 = 1550000000 := by decide +kernel

/-! non-vacuity: a run that ends ready inside the budget, with the ghost `doneAt` -/
def okMsg (s f v : String) : Msg := ⟨.ok, some s, some f, some v⟩

example : (runT realParams 120 {} [.base .start, .base (.wait 24), .base (.tick 2600000), .base (.msg (okMsg "MAIN" "AVAIL" "Ready")),
      .base (.msg (okMsg "SYS" "VERSION" "1.0")), .base .wake, .construct 30, .base (.tick 3000000), .base .subunitOk,
      .construct 60, .base (.tick 6000000), .base .subunitOk]).map (fun s => (s.a.phase, s.a.subunits, s.doneAt, s.built)) =
    some (.ready, ["SYS", "MAIN"], some 11600000, 2) := by decide +kernel

/-- a wait cannot be overrun: one microsecond past the object's deadline is not a step -/
example : runT realParams 120 {} [.base .start, .base (.wait 24), .base (.msg (okMsg "SYS" "VERSION" "1.0")), .base .wake,
      .construct 30, .base (.tick 17000001)] = none := by decide +kernel

end Ynca.C14t
