import YncaVerif.Lemmas.Enum
import YncaVerif.Gen.Enums
import YncaVerif.Gen.Functions
import YncaVerif.Gen.Recordings
/-! # C04 — typed decoding is total and round-trips with the wire text

Generic theorems hold for every enumeration table satisfying the decidable predicate `enumOk`;
`C04_tables_ok` discharges that predicate on the tables regenerated from `ynca/enums.py` by complete
kernel evaluation (a finite table, not a sample).  The recordings part is likewise a complete
evaluation over every distinct recorded `(recording, subunit, function, value)`. -/
namespace Ynca.C04

/-- **total**: decoding any string never raises and yields a member of the table whose wire text is
    that string, or else UNKNOWN -/
theorem C04_total (t : EnumTbl) (h : enumOk t = true) (s : String) :
    (∃ n, decodeEnum t s = .ok (.member t.name n) ∧ (n, s) ∈ t.members) ∨
    (decodeEnum t s = .ok (.member t.name "UNKNOWN") ∧ ∀ m ∈ t.members, m.2 ≠ s) := by
  rcases decodeEnum_cases t s with ⟨n, hm, hd⟩ | ⟨hno, hd⟩
  · exact .inl ⟨n, hd, hm⟩
  · exact .inr ⟨by rw [hd, ((enumOk_iff t).mp h).1]; rfl, hno⟩

/-- **round trip**: encoding any member (UNKNOWN included) and decoding the text gives the same member -/
theorem C04_roundtrip (t : EnumTbl) (h : enumOk t = true) (n txt : String) (hm : (n, txt) ∈ t.members) :
    memberText t n = some txt ∧ decodeEnum t txt = .ok (.member t.name n) :=
  ⟨memberText_of_mem h hm, decodeEnum_of_mem h hm⟩

/-- **injective**: distinct members have distinct wire texts -/
theorem C04_injective (t : EnumTbl) (h : enumOk t = true) (n₁ n₂ txt : String)
    (h₁ : (n₁, txt) ∈ t.members) (h₂ : (n₂, txt) ∈ t.members) : n₁ = n₂ := by
  have b := decodeEnum_of_mem h h₂
  rw [decodeEnum_of_mem h h₁] at b
  injection b with b; injection b

/-- **text functions pass values through unchanged** -/
theorem C04_str_passthrough (tbls : List EnumTbl) (a b : Option Nat) (s : String) :
    decode tbls (.str a b) s = .ok (.str s) := rfl

/-- enumeration names referenced by a converter -/
def enumsOfConv : Conv → List String
  | .enum e => [e]
  | .multi cs => go cs
  | _ => []
where go : List Conv → List String
  | [] => []
  | c :: cs => enumsOfConv c ++ go cs

/-- every enumeration used by any function of any subunit class is one of the well-formed tables -/
def usedEnumsOk (cs : List Cls) (tbls : List EnumTbl) : Bool :=
  cs.all (fun c => c.fns.all (fun f => (enumsOfConv f.conv).all (fun e =>
    match findEnum tbls e with
    | some t => t.name == e && enumOk t
    | none => false)))

theorem usedEnumsOk_of_resolve {cs : List Cls} {tbls : List EnumTbl} (hok : tbls.all enumOk = true)
    (h : cs.all (fun c => c.fns.all (fun f => (enumsOfConv f.conv).all (fun e => (findEnum tbls e).isSome))) = true) :
    usedEnumsOk cs tbls = true := by
  simp only [usedEnumsOk, List.all_eq_true] at h ⊢
  intro c hc f hf e he
  have := h c hc f hf e he
  cases hfe : findEnum tbls e with
  | none => rw [hfe] at this; cases this
  | some t =>
    obtain ⟨hname, hmem⟩ := findEnum_some hfe
    simp [hname, List.all_eq_true.mp hok t hmem]

/-- no converter or `to_str` callable was left unrecognised by the translator -/
def noOpaque : Conv → Bool
  | .opaque _ => false
  | .int (.opaque _) => false
  | .intOrNone (.opaque _) => false
  | .float (.opaque _) => false
  | .multi cs => go cs
  | _ => true
where go : List Conv → Bool
  | [] => true
  | c :: cs => noOpaque c && go cs

def fnOf (cs : List Cls) (subunit fn : String) : Option Fn :=
  match cs.find? (·.id == subunit) with
  | some c => c.fns.find? (·.name == fn)
  | none => none

/-- a recorded value of an enumerated function decodes to a proper member that re-encodes to the same text -/
def recEnumOk (cs : List Cls) (tbls : List EnumTbl) (r : String × String × String × String) : Bool :=
  match fnOf cs r.2.1 r.2.2.1 with
  | some f => match decode tbls f.conv r.2.2.2 with
      | .ok (.member e m) => m != "UNKNOWN" && encode tbls f.conv (.member e m) == .sent r.2.2.2
      | _ => false
  | none => false

/-- a recorded numeric literal of a numeric function decodes to exactly the number the literal denotes -/
def recNumOk (cs : List Cls) (tbls : List EnumTbl) (r : String × String × String × String) : Bool :=
  match fnOf cs r.2.1 r.2.2.1, parseDecimal r.2.2.2.toList with
  | some f, some (m, fr) => (match decode tbls f.conv r.2.2.2 with
      | .ok (.dec m' fr') => m' == m && fr' == fr
      | .ok (.int n) => fr == 0 && n == m
      | _ => false)
  | _, _ => false

/-- The name of the recording plays no part in a check of its values.  Replaced by a constant before the check is
    evaluated, it leaves the kernel with one and the same term for a (subunit, function, value) that several
    recordings hold, which it then evaluates once. -/
theorem all_without_name {β : Type} (p : String × β → Bool) (hp : ∀ x t, p (x, t) = p ("", t))
    (l : List (String × β)) : l.all p = l.all (fun r => match r with | (_, t) => p ("", t)) := by
  congr 1
  funext ⟨x, t⟩
  exact hp x t

/-- The five facts below in one kernel evaluation: the kernel then brings every string of the tables into
    comparable form once instead of once per fact. -/
theorem tables_checked :
    Gen.enums.all enumOk = true ∧
    Gen.classes.all (fun c => c.fns.all (fun f => (enumsOfConv f.conv).all (fun e => (findEnum Gen.enums e).isSome)))
      = true ∧
    Gen.classes.all (fun c => c.fns.all (fun f => noOpaque f.conv)) = true ∧
    Gen.recEnum.all (recEnumOk Gen.classes Gen.enums) = true ∧
    Gen.recNum.all (recNumOk Gen.classes Gen.enums) = true := by
  simp only [← Bool.and_eq_true]
  -- after `simp`, which would turn the `match` of `all_without_name` back into a projection
  rw [all_without_name (recEnumOk _ _) fun _ _ => rfl, all_without_name (recNumOk _ _) fun _ _ => rfl]
  decide +kernel

/-- every enumeration of `ynca/enums.py` is well formed -/
theorem C04_tables_ok : Gen.enums.all enumOk = true := tables_checked.1

theorem C04_used_enums_ok : usedEnumsOk Gen.classes Gen.enums = true :=
  usedEnumsOk_of_resolve C04_tables_ok tables_checked.2.1

theorem C04_no_opaque_converter : Gen.classes.all (fun c => c.fns.all (fun f => noOpaque f.conv)) = true :=
  tables_checked.2.2.1

theorem C04_recordings_enum : Gen.recEnum.all (recEnumOk Gen.classes Gen.enums) = true := tables_checked.2.2.2.1

theorem C04_recordings_numeric : Gen.recNum.all (recNumOk Gen.classes Gen.enums) = true := tables_checked.2.2.2.2

example : enumOk Gen.enum_Mute = true := by decide +kernel
example : decodeEnum Gen.enum_Mute "Att -20 dB" = .ok (.member "Mute" "ATT_MINUS_20") := by decide +kernel
example : decodeEnum Gen.enum_Mute "att -20 db" = .ok (.member "Mute" "UNKNOWN") := by decide +kernel
example : Gen.recEnum.length > 100 ∧ Gen.recNum.length > 50 := by decide +kernel

end Ynca.C04
