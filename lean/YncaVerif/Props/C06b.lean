import YncaVerif.Lemmas.Dialogue
/-! # C06 (barrier and bound), C07 (stage barriers) — over the L5 dialogue model

`D` is the message-level state of an initialisation dialogue: commands enqueued / written in order (C01),
a sequential-responder device, lines processed by the reader in order (C02).  A *stage* is one
`initialize()` of a subunit (or the detection stage of `YncaApi.initialize`): its queries followed by the
`SYS:VERSION` synchronisation query.  Stages follow each other only after the previous one completed
(`begin` needs stage `idle`/`ok`), as in `YncaApi._initialize_available_subunits`. -/
namespace Ynca.C06b
open Ynca.L5

/-- **one version outstanding**: whenever no stage is waiting, every `SYS:VERSION` query enqueued so far has had
    its reply processed — so the line that ends the next stage can only be the reply to that stage's own query -/
theorem C07_one_version_outstanding (answer : Answer) (ha : AnswerOk answer) (s : D) (h : Reachable answer s)
    (hs : s.stage = .idle ∨ s.stage = .ok) : s.vl = s.vq :=
  (reachable_inv answer ha s h).2.bal_rest hs

/-- **barrier**: when a stage has completed normally, the device has consumed every command of the stage
    (its queries and the sync query) and the reader has processed every line the device emitted in answer
    to them — hence every value the device sent before the sync reply is in the cache (C03) -/
theorem C06_barrier (answer : Answer) (ha : AnswerOk answer) (s : D) (h : Reachable answer s) (hok : s.stage = .ok) :
    s.consumed = s.enqueued ∧ s.written.length = s.enqueued ∧ s.pending = [] ∧
    ∀ e ∈ s.ansEnd, e ≤ s.processed :=
  barrier answer ha s h hok

/-- the same at the moment the waiting caller is woken: for the commands `first ..< first+count` of the stage -/
theorem C07_barrier_all_stages (answer : Answer) (ha : AnswerOk answer) (s : D) (h : Reachable answer s)
    (first count dl : Nat) (hw : s.stage = .waiting first count dl) (he : s.event = true) :
    first + count ≤ s.consumed ∧ ∀ i, i < first + count → ∃ e, s.ansEnd[i]? = some e ∧ e ≤ s.processed := by
  have ⟨hk, his⟩ := reachable_inv answer ha s h
  have hv := his.bal_set _ _ _ hw he
  rw [his.wait_enq _ _ _ hw]
  refine ⟨Nat.le_of_eq (hk.barrier ha hv).1.symm, fun i hi => ?_⟩
  have ⟨e, h1, h2, _⟩ := hk.answers_processed ha hv i hi
  exact ⟨e, h1, h2⟩

/-- **bounded**: a waiting stage never outlives its deadline (`2 s + 0.5 s` per command in the source); at the
    deadline, if the sync reply has not been processed, the only possible continuation is the failure -/
theorem C06_bounded (answer : Answer) (s : D) (h : Reachable answer s) (first count dl : Nat)
    (hw : s.stage = .waiting first count dl) : s.now ≤ dl := by
  refine reachable_induction answer (fun s => ∀ f c dl, s.stage = .waiting f c dl → s.now ≤ dl)
    (fun _ _ _ h => nomatch h) ?_ s h first count dl hw
  intro s l s' hi hs f c dl hst
  cases hs with
  | «begin» => cases hst; exact Nat.le_add_right ..
  | tickWaiting _ _ _ _ hst' _ hle => cases hst'.symm.trans hst; exact hle
  | tick _ hnw => exact absurd hst (hnw f c dl)
  | wake | timeout => cases hst
  | write | consume | unsolicited | process => exact hi f c dl hst

theorem C06_timeout_enabled (answer : Answer) (s : D) (first count dl : Nat)
    (hw : s.stage = .waiting first count dl) (he : s.event = false) (hd : dl ≤ s.now) :
    (step answer s .timeout).isSome = true ∧ ∀ d, step answer s (.tick d) = none := by
  constructor
  · simp [step, hw, he, hd]
  · intro d; simp only [step, hw, he]; simp; omega

/-- a failed stage is final: no further stage begins (the API closes everything instead) -/
theorem C06_failed_is_final (answer : Answer) (s s' : D) (l : Label) (hf : s.stage = .failed)
    (h : step answer s l = some s') : s'.stage = .failed := by
  cases step_sound h with
  | «begin» _ _ hst => rw [hf] at hst; exact hst.elim nofun nofun
  | wake _ _ _ hst | timeout _ _ _ hst => cases hf.symm.trans hst
  | write | consume | unsolicited | process | tickWaiting | tick => exact hf

/-! non-vacuity: a device that answers, one stage with two queries completes -/
def demoAnswer : Answer := fun q =>
  if q == versionQuery then ["@SYS:VERSION=1.0"] else if q == "@MAIN:VOL=?" then ["@MAIN:VOL=-30.0"] else ["@UNDEFINED"]

example : ((run demoAnswer {} [.begin ["@MAIN:VOL=?", "@MAIN:PWR=?"] 3500000, .write, .write, .write, .consume, .consume,
    .process, .consume, .process, .process, .wake]).map (fun s => (s.stage, s.processed, s.vl))) = some (.ok, 3, 1) := by
  decide +kernel

end Ynca.C06b
