import YncaVerif.Lemmas.C10
import YncaVerif.Gen.Enums
/-! # C10 — nothing the device sends can take the connection down (typed-value part)

In the models every function of a received line is total (`splitAll`, `parseLine`, `recv` are total
Lean functions; a value that cannot be decoded is an explicit `none` of `decodeFull`, never an
exception).  What remains to state is what happens to the cache.  The reader-thread part (no
transition to the lost state on any line) is in the L4 model. -/
namespace Ynca.C10

/-- Python's behaviour on exotic numeric syntax is type-correct: it yields a number of the converter's kind -/
abbrev ExoticOk := @Ynca.ExoticOk

/-- **undecodable value**: the affected attribute keeps its previous value, every other attribute too, no
    update callback fires, nothing is transmitted and the object keeps processing (it is not closed) -/
theorem C10_undecodable_keeps_previous (tbls : List EnumTbl) (ex : Exotic) (st : SubSt) (m : Msg)
    (f : String) (v : String) (fn : Fn) (hm : m.fn = some f) (hv : m.value = some v)
    (hfn : findFn st.cls f = some fn) (hdec : decodeFull tbls ex fn.conv v = none) :
    (recv tbls ex st m).cache = st.cache ∧ (recv tbls ex st m).calls = st.calls ∧
    (recv tbls ex st m).sent = st.sent ∧ (recv tbls ex st m).closed = st.closed := by
  have hr : report tbls ex st.cls m = none := by simp [report, hm, hv, hfn, hdec]
  rw [recv_eq, hr]
  split <;> exact ⟨rfl, rfl, rfl, rfl⟩

/-- every cached value has the type of its function -/
abbrev CacheTyped := @Ynca.CacheTyped

/-- **type safety**: after ANY history of messages every cached value has the type of its function
    (so an attribute reads a value of its type or `None`, never a value of the wrong type) -/
theorem C10_type_safe (tbls : List EnumTbl) (hE : tbls.all enumNamesOk = true) (ex : Exotic)
    (hex : ExoticOk tbls ex) (c : Cls) (h : List Msg) :
    CacheTyped tbls (h.foldl (recv tbls ex) (SubSt.new c)) :=
  List.foldlRecOn h _ (fun _ _ hmem => nomatch hmem) fun _ hst m _ => recv_typed hE hex hst m

/-- the regenerated enumeration tables satisfy the side condition (`findEnum` by name finds a table of that name) -/
theorem C10_enum_names_ok : Gen.enums.all enumNamesOk = true := by decide +kernel

/-- decoding is type-correct for every converter (the lemma behind type safety) -/
theorem C10_decode_typed (tbls : List EnumTbl) (hE : tbls.all enumNamesOk = true) (c : Conv) (s : String) (v : Val)
    (h : decode tbls c s = .ok v) : valMatches tbls c v = true :=
  decode_typed tbls hE c s v h

/-! ### non-vacuity: the RX-V500D's `Auto Down` -/
example : decode Gen.enums (.float (.stepped 2 1 5)) "Auto Down" = .raises := by decide +kernel
example : decodeFull Gen.enums (fun _ _ => none) (.float (.stepped 2 1 5)) "Auto Down" = none := by decide +kernel
end Ynca.C10
