import YncaVerif.Lemmas.AcceptSound
/-! Projection of an explained trace onto the model's ghost history: what the acceptor's verdict implies about the
OBSERVED events themselves (times and texts of writes, number of disconnect-callback invocations, texts of calls). -/
namespace Ynca.L4

def traceWrites : List (Nat × Ev) → List (Nat × String)
  | [] => []
  | (t, .output (.write x)) :: r => (t, x) :: traceWrites r
  | _ :: r => traceWrites r

def traceDiscs : List (Nat × Ev) → Nat
  | [] => 0
  | (_, .output .discCb) :: r => 1 + traceDiscs r
  | _ :: r => traceDiscs r

/-- command texts handed to put / get / raw, in the order the calls began -/
def traceCalls : List (Nat × Ev) → List String
  | [] => []
  | (_, .input (.call _ x)) :: r => x :: traceCalls r
  | _ :: r => traceCalls r

def snapshotSends (es : List LogEntry) : List String := es.filterMap (fun e => match e with | .send t => some t | _ => none)

theorem traceWrites_append (a b : List (Nat × Ev)) : traceWrites (a ++ b) = traceWrites a ++ traceWrites b := by
  fun_induction traceWrites a <;> simp_all [traceWrites]

theorem traceDiscs_append (a b : List (Nat × Ev)) : traceDiscs (a ++ b) = traceDiscs a + traceDiscs b := by
  fun_induction traceDiscs a <;> simp_all [traceDiscs] <;> omega

theorem traceCalls_append (a b : List (Nat × Ev)) : traceCalls (a ++ b) = traceCalls a ++ traceCalls b := by
  fun_induction traceCalls a <;> simp_all [traceCalls]

/-- the observation of a step as the observer would list it if it were visible -/
def outEv (now : Nat) : Option Obs → List (Nat × Ev)
  | some o => [(now, .output o)]
  | none => []

theorem traceWrites_still {hidden : List String} {t : Nat} {e : Ev} (hv : hidden.contains "write" = false)
    (he : e.still hidden = true) : traceWrites [(t, e)] = [] := by
  cases e with
  | output o => cases o <;> first | rfl | (rw [Ev.still, obsKind, hv] at he; cases he)
  | input => cases he
  | _ => rfl

theorem traceDiscs_still {hidden : List String} {t : Nat} {e : Ev} (hv : hidden.contains "disc" = false)
    (he : e.still hidden = true) : traceDiscs [(t, e)] = 0 := by
  cases e with
  | output o => cases o <;> first | rfl | (rw [Ev.still, obsKind, hv] at he; cases he)
  | input => cases he
  | _ => rfl

def wireTT (s : St) : List (Nat × String) := s.wire.map (fun e => (e.1, e.2.1))

@[simp] theorem wireTT_setUpc (s : St) (t : Tid) (p : UPc) : wireTT (setUpc s t p) = wireTT s := by
  rw [setUpc_eq_move]; rfl

theorem step_wire {P : Params} {s s' : St} {l : Label} {o : Option Obs} (h : Step P s l s' o) :
    wireTT s' = wireTT s ++ traceWrites (outEv s.now o) := by
  cases h with
  | s h =>
    cases h with
    | write => simp [wireTT, outEv, traceWrites]
    | _ => exact (List.append_nil _).symm
  | r h | c _ _ h => cases h <;> exact (List.append_nil _).symm
  | _ => exact (List.append_nil _).symm

/-- the ghost counter counts the observed invocations (only the reader's `discCb` rule touches it) -/
theorem step_disc {P : Params} {s s' : St} {l : Label} {o : Option Obs} (h : Step P s l s' o) :
    s'.discCalls = s.discCalls + traceDiscs (outEv s.now o) := by
  cases h with
  | r h | s h | c _ _ h => cases h <;> rfl
  | _ => rfl

/-- A tally `T` of the observed events (combined by `op`, empty tally `z`) that passes over inputs and over the events at which
    the model stands still equals the model's own tally `G` of its steps, if `G` grows at each step by what `T` makes of the
    step's observation. -/
theorem Expl.tally {P : Params} {hidden : List String} {α : Type} {T : List (Nat × Ev) → α} {G : St → α} {op : α → α → α} {z : α}
    (hz : ∀ a, op a z = a) (hnil : T [] = z) (h0 : G {} = z) (happ : ∀ a b, T (a ++ b) = op (T a) (T b))
    (hstill : ∀ {t e}, e.still hidden = true → T [(t, e)] = z) (hin : ∀ t l, T [(t, .input l)] = z)
    (hstep : ∀ {s l s' o}, Step P s l s' o → G s' = op (G s) (T (outEv s.now o)))
    {pre : List (Nat × Ev)} {s : St} (h : Expl P hidden pre s) : T pre = G s := by
  refine h.induction (R := fun pre s => T pre = G s) (hnil.trans h0.symm) ?_ ?_ ?_ ?_
  · intro pre s l s' o ih _ hs ho
    rw [hstep hs, ← ih]
    cases o with
    | none => rw [outEv, hnil, hz]
    | some o => rw [outEv, hstill (e := .output o) ho, hz]
  · intro pre s l s' ih _ hs
    rw [happ, hin, hz, hstep hs, outEv, hnil, hz, ih]
  · intro pre s l s' o ih _ hs _
    rw [happ, hstep hs, ih, outEv]
  · intro pre s e ih he
    rw [happ, hstill he, hz, ih]

theorem Expl.writes {P : Params} {hidden : List String} {pre : List (Nat × Ev)} {s : St} (h : Expl P hidden pre s)
    (hv : hidden.contains "write" = false) : traceWrites pre = wireTT s :=
  h.tally List.append_nil rfl rfl traceWrites_append (traceWrites_still hv) (fun _ _ => rfl) step_wire

theorem Expl.discs {P : Params} {hidden : List String} {pre : List (Nat × Ev)} {s : St} (h : Expl P hidden pre s)
    (hv : hidden.contains "disc" = false) : traceDiscs pre = s.discCalls :=
  h.tally Nat.add_zero rfl rfl traceDiscs_append (traceDiscs_still hv) (fun _ _ => rfl) step_disc

def SubmInv (texts : List String) (s : St) : Prop :=
  (∀ e ∈ s.submitted, e.2.2 ∈ texts) ∧ (∀ t x, upcOf s t = .submitting x → x ∈ texts)

theorem SubmInv.mono {a b : List String} {s : St} (h : SubmInv a s) (hab : ∀ x ∈ a, x ∈ b) : SubmInv b s :=
  ⟨fun e he => hab _ (h.1 e he), fun t x hx => hab _ (h.2 t x hx)⟩

theorem SubmInv.move {texts : List String} {s : St} {t0 : Tid} {p : UPc} (hi : SubmInv texts s)
    (hp : ∀ x, p = .submitting x → x ∈ texts) : SubmInv texts (s.move t0 p) :=
  ⟨hi.1, fun t => upcOf_move_cases (Q := fun u => ∀ x, u = .submitting x → x ∈ texts) (fun _ => hp) fun _ => hi.2 t⟩

/-- `submitted` grows by the `submit` rule, which records the text its thread holds; a thread comes to hold a text by the
    `call` input, whose text must be among `texts` -/
theorem submInv_step {P : Params} {texts : List String} {s s' : St} {l : Label} {o : Option Obs} (hi : SubmInv texts s)
    (hl : ∀ t x, l = .call t x → x ∈ texts) (h : Step P s l s' o) : SubmInv texts s' := by
  cases h with
  | call => exact hi.move fun x e => by cases e; exact hl _ _ rfl
  | close | closeUnpubR | closeUnpub | closeNoReader | noConn | ret => exact hi.move nofun
  | submit _ hp =>
    refine SubmInv.move ⟨fun e he => ?_, hi.2⟩ nofun
    rcases List.mem_append.mp he with he | he
    · exact hi.1 e he
    · cases List.mem_singleton.mp he
      exact hi.2 _ _ hp
  | c _ _ h => cases h <;> exact hi.move nofun
  | s h | r h => cases h <;> exact hi
  | _ => exact hi

theorem Expl.submInv {P : Params} {hidden : List String} {pre : List (Nat × Ev)} {s : St} (h : Expl P hidden pre s) :
    SubmInv (traceCalls pre) s := by
  have thread : ∀ {l : Label} {texts : List String}, isThreadLabel l = true → ∀ t x, l = .call t x → x ∈ texts := by
    intro l _ hl t x e; subst e; cases hl
  refine h.induction (R := fun pre s => SubmInv (traceCalls pre) s) ⟨nofun, ?_⟩ ?_ ?_ ?_ ?_
  · intro t x hx; simp [upcOf, lookup] at hx
  · intro pre s l s' o ih hl hs _
    exact submInv_step ih (thread hl) hs
  · intro pre s l s' ih _ hs
    rw [traceCalls_append]
    refine submInv_step (ih.mono fun x hx => List.mem_append_left _ hx) ?_ hs
    intro t x e; subst e; simp [traceCalls]
  · intro pre s l s' o ih hl hs _
    exact (submInv_step ih (thread hl) hs).mono fun x hx => traceCalls_append .. ▸ List.mem_append_left _ hx
  · intro pre s e ih _
    exact ih.mono fun x hx => traceCalls_append .. ▸ List.mem_append_left _ hx

end Ynca.L4
