import YncaVerif.Model.Subunit
import YncaVerif.Lemmas.Enum
/-! The L3 subunit model (C03, C05, C07, C09, C10): lookup in a well-formed class table, the cache as a
    finite map, and the message handler in normal form — what a message `report`s is stored and announced,
    everything else only passes the synchronisation check. -/
namespace Ynca

def nodupStr : List String → Bool
  | [] => true
  | x :: xs => !xs.contains x && nodupStr xs

theorem nodupStr_iff (l : List String) : nodupStr l = true ↔ l.Nodup := by
  induction l with
  | nil => simp [nodupStr]
  | cons x xs ih => simp [nodupStr, ih]

def clsOk (c : Cls) : Bool := nodupStr (c.fns.map (·.attr)) && nodupStr (c.fns.map (·.name))

theorem findFn_of_clsOk {c : Cls} (hc : clsOk c = true) {f : Fn} (hf : f ∈ c.fns) :
    findFn c f.name = some f := by
  rw [clsOk, Bool.and_eq_true, nodupStr_iff, nodupStr_iff] at hc
  exact find?_key_of_nodup Fn.name hc.2 hf

theorem findAttr_of_clsOk {c : Cls} (hc : clsOk c = true) {f : Fn} (hf : f ∈ c.fns) :
    findAttr c f.attr = some f := by
  rw [clsOk, Bool.and_eq_true, nodupStr_iff, nodupStr_iff] at hc
  exact find?_key_of_nodup Fn.attr hc.1 hf

theorem readAttr_eq {st : SubSt} (hc : clsOk st.cls = true) {f : Fn} (hf : f ∈ st.cls.fns) :
    readAttr st f.attr = if f.get then .value (cacheGet st.cache f.name) else .attributeError := by
  rw [readAttr, findAttr_of_clsOk hc hf]
  dsimp only
  cases f.get <;> rfl

@[simp] theorem cacheGet_nil (k : String) : cacheGet [] k = none := rfl

theorem cacheGet_cacheSet (cache : List (String × Val)) (k k' : String) (v : Val) :
    cacheGet (cacheSet cache k v) k' = if k' = k then some v else cacheGet cache k' := by
  unfold cacheGet cacheSet
  by_cases hk : k' = k
  · simp [hk]
  · rw [if_neg hk, List.find?_cons_of_neg (by simpa using Ne.symm hk), List.find?_filter]
    congr 2
    funext a
    by_cases ha : a.1 = k' <;> simp [ha, hk]

theorem mem_cacheSet {cache : List (String × Val)} {k : String} {v : Val} {p : String × Val}
    (h : p ∈ cacheSet cache k v) : p = (k, v) ∨ p ∈ cache :=
  (List.mem_cons.mp h).imp_right fun h => (List.mem_filter.mp h).1

def reports (tbls : List EnumTbl) (ex : Exotic) (c : Cls) (f : Fn) (m : Msg) : Option Val :=
  if m.status = .ok ∧ m.subunit = some c.id ∧ m.fn = some f.name then
    m.value.bind (decodeFull tbls ex f.conv)
  else none

/-- `h` is oldest first -/
def lastReported (tbls : List EnumTbl) (ex : Exotic) (c : Cls) (f : Fn) (h : List Msg) : Option Val :=
  h.reverse.findSome? (reports tbls ex c f)

def Reports (tbls : List EnumTbl) (ex : Exotic) (st : SubSt) (m : Msg) (f : String) (val : Val) : Prop :=
  m.status = .ok ∧ m.subunit = some st.cls.id ∧ m.fn = some f ∧
  ∃ v fn, m.value = some v ∧ findFn st.cls f = some fn ∧ decodeFull tbls ex fn.conv v = some val

def report (tbls : List EnumTbl) (ex : Exotic) (c : Cls) (m : Msg) : Option (String × Val) :=
  if m.status = .ok ∧ m.subunit = some c.id then
    match m.fn, m.value with
    | some f, some v => (findFn c f).bind fun fn => (decodeFull tbls ex fn.conv v).map (f, ·)
    | _, _ => none
  else none

theorem report_eq_some {tbls : List EnumTbl} {ex : Exotic} {st : SubSt} {m : Msg} {f : String} {val : Val} :
    report tbls ex st.cls m = some (f, val) ↔ Reports tbls ex st m f val := by
  unfold report Reports
  by_cases h : m.status = .ok ∧ m.subunit = some st.cls.id
  · rw [if_pos h]
    cases m.fn <;> cases m.value <;> simp [h, Option.bind_eq_some_iff]
    exact ⟨fun ⟨a, h1, h2, e⟩ => ⟨e, a, e ▸ h1, h2⟩, fun ⟨e, a, h1, h2⟩ => ⟨a, e ▸ h1, h2, e⟩⟩
  · rw [if_neg h]
    exact ⟨nofun, fun h' => absurd ⟨h'.1, h'.2.1⟩ h⟩

theorem reports_eq {tbls : List EnumTbl} {ex : Exotic} {c : Cls} {f : Fn} (hfind : findFn c f.name = some f)
    (m : Msg) :
    reports tbls ex c f m = (report tbls ex c m).bind fun p => if p.1 = f.name then some p.2 else none := by
  unfold reports report
  by_cases h : m.status = .ok ∧ m.subunit = some c.id
  · rw [if_pos h]
    cases hf : m.fn with
    | none => simp
    | some g =>
      cases hv : m.value with
      | none => simp
      | some v =>
        by_cases hg : g = f.name
        · cases hd : decodeFull tbls ex f.conv v <;> simp [h, hg, hfind, hd]
        · cases hfg : findFn c g with
          | none => simp [hg, hfg]
          | some fn => cases hd : decodeFull tbls ex fn.conv v <;> simp [hg, hfg, hd]
  · rw [if_neg h, if_neg fun h' => h ⟨h'.1, h'.2.1⟩]; rfl

theorem lastReported_cons (tbls : List EnumTbl) (ex : Exotic) (c : Cls) (f : Fn) (m : Msg) (h : List Msg) :
    lastReported tbls ex c f (m :: h) = (lastReported tbls ex c f h).or (reports tbls ex c f m) := by
  simp [lastReported, List.findSome?_append]

/-- the `event` flag after the SYS:VERSION synchronisation check of `recv` -/
def noteSync (st : SubSt) (m : Msg) : SubSt :=
  { st with event := (m.status == .ok && (!st.initialized && m.subunit == some "SYS" && m.fn == some "VERSION"))
                     || st.event }

/-- `recv` and `recvScripted` up to what `deliver` does with a freshly cached value once initialisation is
    over: `recv` appends one call per registered callback, `recvScripted` walks a snapshot of them -/
def recvWith (deliver : String → Val → SubSt → SubSt) (tbls : List EnumTbl) (ex : Exotic) (st : SubSt) (m : Msg) :
    SubSt :=
  if st.closed then st else
  if m.status ≠ .ok then st else
  let st := if !st.initialized && m.subunit == some "SYS" && m.fn == some "VERSION"
            then { st with event := true } else st
  if m.subunit ≠ some st.cls.id then st else
  match m.fn, m.value with
  | some f, some v =>
    match findFn st.cls f with
    | some fn =>
      match decodeFull tbls ex fn.conv v with
      | some val =>
        let st := { st with cache := cacheSet st.cache f val }
        if st.initialized then deliver f val st else st
      | none => st
    | none => st
  | _, _ => st

/-- normal form: an open subunit stores what the message reports and hands it to `deliver` -/
theorem recvWith_eq (deliver : String → Val → SubSt → SubSt) (tbls : List EnumTbl) (ex : Exotic)
    (st : SubSt) (m : Msg) :
    recvWith deliver tbls ex st m =
      if st.closed then st else
      match report tbls ex st.cls m with
      | some (f, val) =>
        let st' := { noteSync st m with cache := cacheSet st.cache f val }
        if st.initialized then deliver f val st' else st'
      | none => noteSync st m := by
  unfold recvWith report
  by_cases hcl : st.closed = true
  · rw [if_pos hcl, if_pos hcl]
  rw [if_neg hcl, if_neg hcl]
  by_cases hst : m.status = .ok
  case neg => rw [if_pos hst, if_neg fun h => hst h.1, noteSync, beq_false_of_ne hst]; rfl
  have e : (if (!st.initialized && m.subunit == some "SYS" && m.fn == some "VERSION") = true
      then { st with event := true } else st) = noteSync st m := by
    unfold noteSync
    rw [hst]
    cases (!st.initialized && m.subunit == some "SYS" && m.fn == some "VERSION") <;> rfl
  rw [if_neg (not_not_intro hst), e]
  dsimp only [noteSync]
  by_cases hsub : m.subunit = some st.cls.id
  case neg => rw [if_pos hsub, if_neg fun h => hsub h.2]
  rw [if_neg (not_not_intro hsub), if_pos ⟨hst, hsub⟩]
  cases m.fn <;> cases m.value <;> try rfl
  rename_i f v
  dsimp only
  cases findFn st.cls f <;> try rfl
  rename_i fn
  dsimp only [Option.bind_some]
  cases decodeFull tbls ex fn.conv v <;> rfl

theorem recv_eq (tbls : List EnumTbl) (ex : Exotic) (st : SubSt) (m : Msg) :
    recv tbls ex st m =
      if st.closed then st else
      match report tbls ex st.cls m with
      | some (f, val) =>
        let st' := { noteSync st m with cache := cacheSet st.cache f val }
        if st.initialized then { st' with calls := st.calls ++ st.cbs.map (fun cb => ⟨cb, f, val⟩) } else st'
      | none => noteSync st m :=
  -- `recv` is `recvWith` with this `deliver`, by unfolding (the model writes the body out)
  recvWith_eq (fun f val st => { st with calls := st.calls ++ st.cbs.map (fun cb => ⟨cb, f, val⟩) }) tbls ex st m

theorem recvScripted_eq (tbls : List EnumTbl) (ex : Exotic) (script : Nat → List CbOp) (st : SubSt) (m : Msg) :
    recvScripted tbls ex script st m =
      if st.closed then st else
      match report tbls ex st.cls m with
      | some (f, val) =>
        let st' := { noteSync st m with cache := cacheSet st.cache f val }
        if st.initialized then deliverSnapshot script f val st.cbs st' else st'
      | none => noteSync st m :=
  recvWith_eq (fun f val st => deliverSnapshot script f val st.cbs st) tbls ex st m

theorem recv_of_closed (tbls : List EnumTbl) (ex : Exotic) {st : SubSt} (h : st.closed = true) (m : Msg) :
    recv tbls ex st m = st := by
  rw [recv_eq, if_pos h]

theorem recv_frame (tbls : List EnumTbl) (ex : Exotic) (st : SubSt) (m : Msg) :
    ∃ e c k, recv tbls ex st m = { st with event := e, cache := c, calls := k } := by
  rw [recv_eq]
  split
  · exact ⟨_, _, _, rfl⟩
  split
  · dsimp only; split <;> exact ⟨_, _, _, rfl⟩
  · exact ⟨_, _, _, rfl⟩

theorem foldl_recv_frame (tbls : List EnumTbl) (ex : Exotic) (st : SubSt) (h : List Msg) :
    ∃ e c k, h.foldl (recv tbls ex) st = { st with event := e, cache := c, calls := k } := by
  refine List.foldlRecOn (motive := fun s => ∃ e c k, s = { st with event := e, cache := c, calls := k })
    h _ (b := st) ⟨_, _, _, rfl⟩ fun s hs m _ => ?_
  obtain ⟨_, _, _, hs⟩ := hs
  obtain ⟨_, _, _, hr⟩ := recv_frame tbls ex s m
  rw [hr, hs]
  exact ⟨_, _, _, rfl⟩

theorem recv_cls (tbls : List EnumTbl) (ex : Exotic) (st : SubSt) (m : Msg) :
    (recv tbls ex st m).cls = st.cls := by
  obtain ⟨_, _, _, e⟩ := recv_frame tbls ex st m; rw [e]

theorem recv_closed (tbls : List EnumTbl) (ex : Exotic) (st : SubSt) (m : Msg) :
    (recv tbls ex st m).closed = st.closed := by
  obtain ⟨_, _, _, e⟩ := recv_frame tbls ex st m; rw [e]

theorem foldl_recv_cls (tbls : List EnumTbl) (ex : Exotic) (st : SubSt) (h : List Msg) :
    (h.foldl (recv tbls ex) st).cls = st.cls := by
  obtain ⟨_, _, _, e⟩ := foldl_recv_frame tbls ex st h; rw [e]

theorem foldl_recv_cbs (tbls : List EnumTbl) (ex : Exotic) (st : SubSt) (h : List Msg) :
    (h.foldl (recv tbls ex) st).cbs = st.cbs := by
  obtain ⟨_, _, _, e⟩ := foldl_recv_frame tbls ex st h; rw [e]

theorem recv_cache (tbls : List EnumTbl) (ex : Exotic) {st : SubSt} (hopen : st.closed = false) (m : Msg) :
    (recv tbls ex st m).cache =
      match report tbls ex st.cls m with
      | some (f, val) => cacheSet st.cache f val
      | none => st.cache := by
  rw [recv_eq, if_neg (by simp [hopen])]
  split
  · dsimp only; split <;> rfl
  · rfl

theorem recv_calls (tbls : List EnumTbl) (ex : Exotic) (st : SubSt) (m : Msg) :
    (recv tbls ex st m).calls =
      if st.closed = false ∧ st.initialized = true then
        match report tbls ex st.cls m with
        | some (f, val) => st.calls ++ st.cbs.map (fun cb => ⟨cb, f, val⟩)
        | none => st.calls
      else st.calls := by
  rw [recv_eq]
  cases st.closed
  case true => simp
  cases st.initialized <;> simp only [Bool.false_eq_true, if_false, if_true, and_self, and_false] <;>
    split <;> rfl

theorem recv_cacheGet {tbls : List EnumTbl} {ex : Exotic} {st : SubSt} {f : Fn}
    (hfind : findFn st.cls f.name = some f) (hopen : st.closed = false) (m : Msg) :
    cacheGet (recv tbls ex st m).cache f.name =
      (reports tbls ex st.cls f m).or (cacheGet st.cache f.name) := by
  rw [recv_cache tbls ex hopen, reports_eq hfind]
  cases report tbls ex st.cls m with
  | none => rfl
  | some p =>
    dsimp only [Option.bind_some]
    rw [cacheGet_cacheSet]
    by_cases h : f.name = p.1
    · rw [if_pos h, if_pos h.symm]; rfl
    · rw [if_neg h, if_neg (Ne.symm h)]; rfl

theorem foldl_recv_cacheGet {tbls : List EnumTbl} {ex : Exotic} {f : Fn} (h : List Msg) {st : SubSt}
    (hfind : findFn st.cls f.name = some f) (hopen : st.closed = false) :
    cacheGet (h.foldl (recv tbls ex) st).cache f.name =
      (lastReported tbls ex st.cls f h).or (cacheGet st.cache f.name) := by
  induction h generalizing st with
  | nil => rfl
  | cons m h ih =>
    rw [List.foldl_cons, ih (by rwa [recv_cls]) (by rwa [recv_closed]), recv_cacheGet hfind hopen, recv_cls,
      lastReported_cons, Option.or_assoc]

end Ynca
