import YncaVerif.Lemmas.L4Run
/-! C17x: `close()` on a connection whose `connect()` never completed (`_protocol` unassigned,
`_readerthread` set): the path `callClose → c1 → c2 → c3 → c4 → c5 → c6` that skips `c0`, the step that clears the
disconnect callback.  Ghost state of that path: `closeUnpub`, `unpubCloseAt`, `unpubClosers`, `unpubCloseReturned`. -/
namespace Ynca.L4.C17L

/-- the reader thread has ended, or the 2 s join time-out has elapsed since the first close() of this kind was
    entered (every later one started its join later still) -/
def joinedU (P : Params) (s : St) : Prop := s.rpc = .done ∨ s.unpubCloseAt + P.joinTimeout ≤ s.now

/-- what is known at each program point of a close() that was entered on the unpublished path -/
def upcOK (P : Params) (s : St) : UPc → Prop
  | .closing .c1 => True
  | .closing .c2 => True
  | .closing (.c3 dl) => s.unpubCloseAt + P.joinTimeout ≤ dl
  | .closing .c4 => joinedU P s
  | .closing .c5 => joinedU P s
  | .closing .c6 => joinedU P s
  | _ => False

structure UnpubInv (P : Params) (s : St) : Prop where
  started : s.closeUnpub = true → s.rpc ≠ .notStarted ∧ s.unpubCloseAt ≤ s.now
  mem : ∀ t, t ∈ s.unpubClosers → s.closeUnpub = true ∧ t ≠ tidR ∧ upcOK P s (upcOf s t)
  ret : s.unpubCloseReturned = true → s.closeUnpub = true ∧ s.closeReturned = true ∧ joinedU P s

theorem upcOK_mono {P : Params} {s s' : St} {p : UPc} (hat : s'.unpubCloseAt = s.unpubCloseAt)
    (hj : joinedU P s → joinedU P s') (h : upcOK P s p) : upcOK P s' p := by
  cases p with
  | closing pc =>
    cases pc with
    | c3 d => exact show s'.unpubCloseAt + P.joinTimeout ≤ d from hat ▸ h
    | c4 | c5 | c6 => exact hj h
    | _ => exact h
  | _ => exact h

/-- a step that writes none of the ghost fields keeps the invariant if it leaves every thread on the path where `upcOK` says:
    the reader only moves on and time only passes -/
theorem UnpubInv.keep {P : Params} {s s' : St} (hi : UnpubInv P s) (L : Later s s')
    (hu : ∀ t, s.closeUnpub = true → upcOK P s (upcOf s t) → upcOK P s (upcOf s' t))
    (hnow : s.now ≤ s'.now := by exact Nat.le_refl _)
    (hcl : s'.unpubClosers = s.unpubClosers := by rfl) (hcu : s'.closeUnpub = s.closeUnpub := by rfl)
    (hat : s'.unpubCloseAt = s.unpubCloseAt := by rfl) (hret : s'.unpubCloseReturned = s.unpubCloseReturned := by rfl)
    (hcr : s'.closeReturned = s.closeReturned := by rfl) : UnpubInv P s' := by
  have hj : joinedU P s → joinedU P s' := fun h => h.imp L.done fun h => by rw [hat]; exact Nat.le_trans h hnow
  refine ⟨fun h => ?_, fun t ht => ?_, fun h => ?_⟩
  · obtain ⟨a, b⟩ := hi.started (hcu ▸ h)
    exact ⟨L.started a, by rw [hat]; exact Nat.le_trans b hnow⟩
  · obtain ⟨a, b, c⟩ := hi.mem t (hcl ▸ ht)
    exact ⟨hcu ▸ a, b, upcOK_mono hat hj (hu t a c)⟩
  · obtain ⟨a, b, c⟩ := hi.ret (hret ▸ h)
    exact ⟨hcu ▸ a, hcr ▸ b, hj c⟩

theorem upcOK_move {P : Params} {s s1 : St} {t0 t : Tid} {p q : UPc} (hq : upcOf s t0 = q)
    (h0 : upcOK P s q → upcOK P s p) (hu : ∀ t, upcOf s1 t = upcOf s t := by exact fun _ => rfl) :
    upcOK P s (upcOf s t) → upcOK P s (upcOf (s1.move t0 p) t) :=
  upcOf_move_cases (Q := fun u => upcOK P s (upcOf s t) → upcOK P s u) (fun e h => h0 (hq ▸ e ▸ h)) fun _ h => hu t ▸ h

/-- thread `t0` moves to `p` while the ghost state goes from `s` to `s1` (clock and reader untouched): the entry time of the
    path, once set, stays; no thread other than `t0` joins the path, and `t0`, if on it afterwards, is where `upcOK` says -/
theorem UnpubInv.move {P : Params} {s s1 : St} {t0 : Tid} {p : UPc} (hi : UnpubInv P s)
    (hcu : s.closeUnpub = true → s1.closeUnpub = true ∧ s1.unpubCloseAt = s.unpubCloseAt)
    (hst : s1.closeUnpub = true → s1.rpc ≠ .notStarted ∧ s1.unpubCloseAt ≤ s1.now)
    (hmem : ∀ t, t ∈ s1.unpubClosers → t = t0 ∨ t ∈ s.unpubClosers)
    (h0 : t0 ∈ s1.unpubClosers → s1.closeUnpub = true ∧ t0 ≠ tidR ∧ upcOK P s1 p)
    (hret : s1.unpubCloseReturned = true → s1.closeUnpub = true ∧ s1.closeReturned = true ∧ joinedU P s1)
    (hnow : s1.now = s.now := by rfl) (hrpc : s1.rpc = s.rpc := by rfl)
    (hu : ∀ t, upcOf s1 t = upcOf s t := by exact fun _ => rfl) : UnpubInv P (s1.move t0 p) := by
  refine ⟨hst, fun t => ?_, hret⟩
  refine upcOf_move_cases (Q := fun u => t ∈ s1.unpubClosers → s1.closeUnpub = true ∧ t ≠ tidR ∧ upcOK P s1 u)
    (fun e => e ▸ h0) fun hne ht => ?_
  obtain ⟨a, b, c⟩ := hi.mem t ((hmem t ht).resolve_left hne)
  obtain ⟨a1, a2⟩ := hcu a
  exact ⟨a1, b, hu t ▸ upcOK_mono a2 (by rw [joinedU, joinedU, hrpc, hnow, a2]; exact id) c⟩

/-- thread `t0` enters a close() of this kind (the reader exists): the entry time is set by the first such entry and kept by later ones -/
theorem UnpubInv.enter {P : Params} {s : St} {t0 : Tid} {p : UPc} (hi : UnpubInv P s) (hr : s.rpc ≠ .notStarted) (cs : List Tid)
    (hmem : ∀ t, t ∈ cs → t = t0 ∨ t ∈ s.unpubClosers) (h0 : t0 ∈ cs → t0 ≠ tidR ∧ p = .closing .c1) :
    UnpubInv P (St.move { s with closeUnpub := true, unpubCloseAt := bif s.closeUnpub then s.unpubCloseAt else s.now,
                                 unpubClosers := cs } t0 p) := by
  have hat : s.closeUnpub = true → (bif s.closeUnpub then s.unpubCloseAt else s.now) = s.unpubCloseAt := fun h => by rw [h]; rfl
  refine hi.move (fun h => ⟨rfl, hat h⟩) (fun _ => ⟨hr, ?_⟩) hmem (fun h => ⟨rfl, (h0 h).1, (h0 h).2 ▸ trivial⟩) (fun h => ?_)
  · cases hc : s.closeUnpub
    · exact Nat.le_refl _
    · exact (hi.started hc).2
  · obtain ⟨a, b, c⟩ := hi.ret h
    exact ⟨rfl, b, by rw [joinedU, hat a]; exact c⟩

/-- The entries `closeUnpub` / `closeUnpubR` and the return `c6` write the ghost state; on the path `c2` sets the join deadline and `c3`
    waits for it; of the reader the invariant reads only whether it has started and whether it has ended (`Later`). -/
theorem unpubInv_step {P : Params} {s s' : St} {l : Label} {o : Option Obs}
    (hi : UnpubInv P s) (h : Step P s l s' o) : UnpubInv P s' := by
  have L := h.later
  cases h with
  | tick => exact hi.keep L (fun _ _ h => h) (Nat.le_add_right ..)
  | r h => cases h <;> exact hi.keep L fun _ _ h => h
  | call _ hm | close _ hm _ | closeNoReader _ hm _ _ => exact hi.keep L fun _ _ => upcOK_move (mayCall_idle hm) False.elim
  | closeUnpubR hm _ hr =>
    exact hi.enter hr s.unpubClosers (fun _ => .inr) fun h => ((mayCall_idle hm ▸ (hi.mem _ h).2.2 : upcOK P s .idle)).elim
  | closeUnpub t0 _ _ hr ht => exact hi.enter hr (t0 :: s.unpubClosers) (fun _ h => List.mem_cons.mp h) fun _ => ⟨ht, rfl⟩
  | submit t0 hp _ _ | noConn t0 hp _ | ret t0 hp => exact hi.keep L fun _ _ => upcOK_move hp False.elim
  | c t0 hp hc =>
    cases hc with
    | c0 | c0R | r1 | r2 | r3 | r3Closed => exact hi.keep L fun _ _ => upcOK_move hp False.elim
    | c1 | c4 | c4Closed | c5 => exact hi.keep L fun _ _ => upcOK_move hp id
    | c2 => exact hi.keep L fun _ hc => upcOK_move hp (fun _ => Nat.add_le_add_right (hi.started hc).2 _)
    | c3 hj =>
      -- the join has ended; for a close() of this kind, because the reader is done or its deadline has passed
      refine hi.keep L fun _ hc => upcOK_move hp fun hdl => ?_
      rcases hj with hj | hj | hj
      · exact .inl hj
      · exact absurd hj (hi.started hc).1
      · exact .inr (Nat.le_trans hdl hj)
    | c6 =>
      refine hi.move (fun h => ⟨h, rfl⟩) hi.started (fun t h => .inr (List.mem_filter.mp h).1)
        (fun h => by simp at h) (fun h => ?_)
      rcases Bool.or_eq_true .. |>.mp h with h | h
      · exact ⟨(hi.ret h).1, rfl, (hi.ret h).2.2⟩
      · obtain ⟨a, _, c⟩ := hi.mem t0 (List.contains_iff_mem.mp h)
        exact ⟨a, rfl, show joinedU P s from (hp ▸ c : upcOK P s (.closing .c6))⟩
  | s h => cases h <;> exact ⟨hi.started, hi.mem, hi.ret⟩
  | _ => exact ⟨hi.started, hi.mem, hi.ret⟩

theorem unpubInv_reachable (P : Params) (s : St) (h : Reachable P s) : UnpubInv P s :=
  h.induction (UnpubInv P) ⟨nofun, nofun, nofun⟩ fun _ _ _ _ _ => unpubInv_step

/-- the disconnect callback is cleared only by a close() that found `_protocol` assigned -/
structure PubInv (s : St) : Prop where
  started : s.closeStarted = true → s.published = true
  atC0 : ∀ t, upcOf s t = .closing .c0 → s.published = true

theorem PubInv.move {s s1 : St} {t0 : Tid} {p : UPc} (hi : PubInv s) (hst : s1.closeStarted = true → s.published = true)
    (hp : p = .closing .c0 → s.published = true) (hpub : s1.published = s.published := by rfl)
    (hu : ∀ t, upcOf s1 t = upcOf s t := by exact fun _ => rfl) : PubInv (s1.move t0 p) :=
  ⟨fun h => hpub ▸ hst h, fun t => upcOf_move_cases (Q := fun u => u = .closing .c0 → s1.published = true)
    (fun _ h => hpub ▸ hp h) fun _ h => hpub ▸ hi.atC0 t (hu t ▸ h)⟩

/-- reads `closeStarted`, `published` and who is at `c0`: a thread gets there by a close() call on a published connection, and
    `c0` sets the flag; `publish` is the only other rule that writes one of the two -/
theorem pubInv_step {P : Params} {s s' : St} {l : Label} {o : Option Obs} (hi : PubInv s) (h : Step P s l s' o) :
    PubInv s' := by
  cases h with
  | publish => exact ⟨fun _ => rfl, fun _ _ => rfl⟩
  | close _ _ hp => exact hi.move hi.started fun _ => hp
  | call | closeUnpubR | closeUnpub | closeNoReader | submit | noConn | ret => exact hi.move hi.started nofun
  | c t0 hp h =>
    cases h with
    | c0 | c0R => exact hi.move (fun _ => hi.atC0 t0 hp) nofun
    | _ => exact hi.move hi.started nofun
  | s h | r h => cases h <;> exact ⟨hi.started, hi.atC0⟩
  | _ => exact ⟨hi.started, hi.atC0⟩

theorem started_published (P : Params) (s : St) (h : Reachable P s) (hc : s.closeStarted = true) :
    s.published = true :=
  (h.induction PubInv ⟨nofun, fun t => by simp [upcOf, lookup]⟩ fun _ _ _ _ _ => pubInv_step).started hc

end Ynca.L4.C17L
