import YncaVerif.Model.Framing
import YncaVerif.Lemmas.Stepped
/-! Framing (`splitFirst`, `splitAll`, `feed`), UTF-8 encodings without the terminator, the line parser (C02). -/
namespace Ynca

section
variable {α : Type} [DecidableEq α]

theorem splitFirst_append_some (a b : α) (l m p r : List α)
    (h : splitFirst a b l = some (p, r)) : splitFirst a b (l ++ m) = some (p, r ++ m) := by
  fun_induction splitFirst a b l generalizing p r with
  | case1 => simp at h
  | case2 => simp at h
  | case3 x y rest hxy => simp at h; obtain ⟨rfl, rfl⟩ := h; simp [splitFirst, hxy]
  | case4 x y rest hxy p' r' heq ih =>
    simp at h; obtain ⟨rfl, rfl⟩ := h
    have := ih p' r' heq
    simp only [List.cons_append] at this ⊢
    simp [splitFirst, hxy, this]
  | case5 x y rest hxy heq => simp at h

theorem splitFirst_cons_none (a b x : α) (m : List α)
    (h : x ≠ a ∨ m.head? ≠ some b) (hm : splitFirst a b m = none) :
    splitFirst a b (x :: m) = none := by
  cases m with
  | nil => rfl
  | cons y rest =>
    have : ¬ (x = a ∧ y = b) := by
      rintro ⟨rfl, rfl⟩; simp at h
    simp [splitFirst, this, hm]

theorem splitFirst_append_none (a b : α) (w m : List α)
    (h : ∀ x ∈ w, x ≠ a) (hm : splitFirst a b m = none) :
    splitFirst a b (w ++ m) = none := by
  induction w with
  | nil => exact hm
  | cons x w ih =>
    exact splitFirst_cons_none a b x (w ++ m) (.inl (h x (List.mem_cons_self ..)))
      (ih fun y hy => h y (List.mem_cons_of_mem _ hy))

theorem splitAll_none (a b : α) (l : List α) (h : splitFirst a b l = none) :
    splitAll a b l = ([], l) := by
  rw [splitAll]; split
  · rfl
  · rename_i p r h'; simp [h] at h'

theorem splitAll_some (a b : α) (l p r : List α) (h : splitFirst a b l = some (p, r)) :
    splitAll a b l = (p :: (splitAll a b r).1, (splitAll a b r).2) := by
  rw [splitAll]; split
  · rename_i h'; simp [h] at h'
  · rename_i p' r' h'; simp [h] at h'; obtain ⟨rfl, rfl⟩ := h'; rfl

theorem splitAll_append (a b : α) (l m : List α) :
    splitAll a b (l ++ m) =
      ((splitAll a b l).1 ++ (splitAll a b ((splitAll a b l).2 ++ m)).1,
       (splitAll a b ((splitAll a b l).2 ++ m)).2) := by
  fun_induction splitAll a b l with
  | case1 l h => rfl
  | case2 l p r h ps rem heq ih =>
    rw [splitAll_some a b _ p _ (splitFirst_append_some a b l m p r h), ih, heq]; rfl

def wireG (a b : α) (lines : List (List α)) (tail : List α) : List α :=
  (lines.map (· ++ [a, b])).flatten ++ tail

theorem splitFirst_some (a b : α) (l p r : List α)
    (h : splitFirst a b l = some (p, r)) : l = p ++ a :: b :: r ∧ splitFirst a b p = none := by
  fun_induction splitFirst a b l generalizing p r with
  | case1 => simp at h
  | case2 => simp at h
  | case3 x y rest hxy =>
    simp at h; obtain ⟨rfl, rfl⟩ := h; obtain ⟨rfl, rfl⟩ := hxy; exact ⟨rfl, rfl⟩
  | case4 x y rest hxy p' r' heq ih =>
    simp at h; obtain ⟨rfl, rfl⟩ := h
    obtain ⟨he, hp⟩ := ih p' r' heq
    refine ⟨by rw [he]; rfl, splitFirst_cons_none a b x p' ?_ hp⟩
    -- `p'` is empty or starts with `y`, and `x, y` is not the terminator
    cases p' with
    | nil => exact .inr nofun
    | cons z q =>
      obtain rfl : y = z := by injection he
      exact (Classical.not_and_iff_not_or_not.mp hxy).imp_right fun h e => h (by simpa using e)
  | case5 x y rest hxy heq => simp at h

omit [DecidableEq α] in
theorem wireG_cons (a b : α) (l : List α) (ls : List (List α)) (tail : List α) :
    wireG a b (l :: ls) tail = l ++ a :: b :: wireG a b ls tail := by
  simp [wireG]

theorem splitAll_spec (a b : α) (l : List α) :
    wireG a b (splitAll a b l).1 (splitAll a b l).2 = l ∧
    (∀ p ∈ (splitAll a b l).1, splitFirst a b p = none) ∧ splitFirst a b (splitAll a b l).2 = none := by
  fun_induction splitAll a b l with
  | case1 l h => exact ⟨rfl, nofun, h⟩
  | case2 l p r h ps rem heq ih =>
    rw [heq] at ih
    obtain ⟨he, hp⟩ := splitFirst_some a b l p r h
    exact ⟨by rw [wireG_cons, ih.1, ← he], List.forall_mem_cons.mpr ⟨hp, ih.2.1⟩, ih.2.2⟩

theorem splitAll_rem_none (a b : α) (l : List α) : splitFirst a b (splitAll a b l).2 = none :=
  (splitAll_spec a b l).2.2

/-- `hbuf` holds of every buffer `feed` leaves behind (`splitAll_rem_none`) -/
theorem feedAll_eq_splitAll (a b : α) (buf : List α) (chunks : List (List α))
    (hbuf : splitFirst a b buf = none) :
    feedAll a b buf chunks = splitAll a b (buf ++ chunks.flatten) := by
  induction chunks generalizing buf with
  | nil => simp [feedAll, splitAll_none a b buf hbuf]
  | cons c cs ih =>
    have h1 := ih (splitAll a b (buf ++ c)).2 (splitAll_rem_none a b (buf ++ c))
    have h2 := splitAll_append a b (buf ++ c) cs.flatten
    simp only [feedAll, feed, List.flatten_cons, ← List.append_assoc]
    rw [h1, h2]

theorem splitAll_of_feedAll {a b : α} {buf : List α} (hbuf : splitFirst a b buf = none) {chunks lines : List (List α)}
    {rest : List α} (h : feedAll a b buf chunks = (lines, rest)) :
    splitAll a b (buf ++ chunks.flatten) = (lines, rest) :=
  (feedAll_eq_splitAll a b buf chunks hbuf).symm.trans h
end

def NoCRLF (l : List UInt8) : Prop := splitFirst CR LF l = none

/-- `wireG CR LF`, written out for the C02 statements (the two are equal by `rfl`) -/
def wire (lines : List (List UInt8)) (tail : List UInt8) : List UInt8 :=
  (lines.map (· ++ [CR, LF])).flatten ++ tail

theorem byteArray_toList_loop (bs : ByteArray) (i : Nat) (r : List UInt8) :
    ByteArray.toList.loop bs i r = r.reverse ++ bs.data.toList.drop i := by
  fun_induction ByteArray.toList.loop bs i r with
  | case1 i r h ih =>
    rw [ih]
    have h' : i < bs.data.toList.length := by simpa using h
    rw [List.drop_eq_getElem_cons h']
    simp [ByteArray.get!, getElem!_pos, h]
  | case2 i r h =>
    have : bs.data.toList.length ≤ i := by simpa using h
    simp [List.drop_eq_nil_of_le this]

theorem byteArray_toList (bs : ByteArray) : bs.toList = bs.data.toList := by
  simp [ByteArray.toList, byteArray_toList_loop]

theorem toUTF8_toList (s : String) : s.toUTF8.toList = s.toList.flatMap String.utf8EncodeChar := by
  rw [byteArray_toList, String.toUTF8_eq_toByteArray, ← String.utf8Encode_toList, List.utf8Encode,
    List.toList_data_toByteArray]

theorem utf8EncodeChar_bytes (c : Char) :
    (c.val.toNat ≤ 127 ∧ String.utf8EncodeChar c = [UInt8.ofNat c.val.toNat]) ∨
    (∀ b ∈ String.utf8EncodeChar c, 128 ≤ b.toNat) := by
  -- every byte of a multi-byte encoding is `x % k + base` with `128 ≤ base` and `base + k ≤ 256`
  have hi : ∀ {x k base : Nat} {l : List UInt8}, 128 ≤ base ∧ 0 < k ∧ base + k ≤ 256 →
      (∀ b ∈ l, 128 ≤ b.toNat) → ∀ b ∈ UInt8.ofNat (x % k + base) :: l, 128 ≤ b.toNat :=
    fun {x k base l} ⟨h1, hk, h2⟩ hl => List.forall_mem_cons.mpr ⟨by
      have := Nat.mod_lt x hk
      rw [UInt8.toNat_ofNat']; omega, hl⟩
  unfold String.utf8EncodeChar
  dsimp only
  by_cases h1 : c.val.toNat ≤ 127
  · exact .inl ⟨h1, if_pos h1⟩
  right
  rw [if_neg h1]
  by_cases h2 : c.val.toNat ≤ 2047
  · rw [if_pos h2]; exact hi (by decide) (hi (by decide) nofun)
  rw [if_neg h2]
  by_cases h3 : c.val.toNat ≤ 65535
  · rw [if_pos h3]; exact hi (by decide) (hi (by decide) (hi (by decide) nofun))
  · rw [if_neg h3]; exact hi (by decide) (hi (by decide) (hi (by decide) (hi (by decide) nofun)))

theorem utf8EncodeChar_of_mem_ascii {c : Char} {v : UInt8} (hv : v.toNat < 128)
    (h : v ∈ String.utf8EncodeChar c) : c = Char.ofNat v.toNat ∧ String.utf8EncodeChar c = [v] := by
  rcases utf8EncodeChar_bytes c with ⟨hle, he⟩ | hb
  · rw [he, List.mem_singleton] at h
    have hc : c.val.toNat = v.toNat := by rw [h, UInt8.toNat_ofNat']; omega
    refine ⟨Char.ext (UInt32.toNat_inj.1 ?_), h ▸ he⟩
    rw [hc, Char.ofNat, dif_pos (.inl (by omega))]
    rfl
  · exact absurd (hb v h) (by omega)

theorem head_enc_ne_LF (cs : List Char) (h : cs.head? ≠ some '\n') :
    (cs.flatMap String.utf8EncodeChar).head? ≠ some LF := by
  cases cs with
  | nil => nofun
  | cons c cs =>
    intro heq
    cases he : String.utf8EncodeChar c with
    | nil => exact String.utf8EncodeChar_ne_nil he
    | cons x w =>
      rw [List.flatMap_cons, he] at heq
      obtain rfl : x = LF := Option.some.inj heq
      exact h (congrArg some (utf8EncodeChar_of_mem_ascii (by decide) (he ▸ List.mem_cons_self ..)).1)

theorem enc_noCRLF (cs : List Char) (h : ∀ pre post : List Char, cs ≠ pre ++ '\r' :: '\n' :: post) :
    splitFirst CR LF (cs.flatMap String.utf8EncodeChar) = none := by
  induction cs with
  | nil => rfl
  | cons c cs ih =>
    have ih' := ih fun pre post e => h (c :: pre) post (by rw [e]; rfl)
    rw [List.flatMap_cons]
    by_cases hcr : CR ∈ String.utf8EncodeChar c
    · obtain ⟨hc, he⟩ := utf8EncodeChar_of_mem_ascii (by decide) hcr
      rw [he]
      refine splitFirst_cons_none _ _ _ _ (.inr (head_enc_ne_LF cs fun hd => ?_)) ih'
      cases cs with
      | nil => cases hd
      | cons d post => exact h [] post (by rw [hc, Option.some.inj hd]; rfl)
    · exact splitFirst_append_none _ _ _ _ (fun x hx e => hcr (e ▸ hx)) ih'

theorem splitAt1_mem (c : Char) (S rest : List Char) (hS : S ≠ []) (hc : c ∉ S) :
    splitAt1 c (S ++ c :: rest) = some (S, rest) := by
  cases S with
  | nil => exact absurd rfl hS
  | cons x xs =>
    have ⟨h1, h2⟩ := span_ne (fun h => hc (List.mem_cons_of_mem _ h)) rest
    rw [List.cons_append, splitAt1, h1, h2]

theorem matchLine_fields (S F V : List Char) (hS : S ≠ []) (hS' : ':' ∉ S) (hF : F ≠ []) (hF' : '=' ∉ F) :
    matchLine ('@' :: S ++ ':' :: F ++ '=' :: V) = some (S, F, V) := by
  have e : '@' :: S ++ ':' :: F ++ '=' :: V = '@' :: (S ++ ':' :: (F ++ '=' :: V)) := by simp
  rw [e, matchLine]
  simp [splitAt1_mem ':' S _ hS hS', splitAt1_mem '=' F V hF hF']

end Ynca
