import YncaVerif.Model.ApiTimed
import YncaVerif.Lemmas.Api
/-! L7t: its runs project to L7 runs, and the time budget of `initialize()`. -/
namespace Ynca.L7

theorem stepT_base_a {P : Params} {N : Nat} {s s' : T} {l : Label} (h : stepT P N s (.base l) = some s') :
    step P s.a l = some s'.a := by
  have map_a : ∀ {f : A → T} {o : Option A}, (∀ a', (f a').a = a') → o.map f = some s' → o = some s'.a := by
    intro f o hf h
    obtain ⟨a', rfl, rfl⟩ := Option.map_eq_some_iff.mp h
    rw [hf]
  generalize hl : TLabel.base l = tl at h
  revert h
  fun_cases stepT P N s tl <;> intro h <;> cases hl <;> first | cases h | exact map_a (fun _ => rfl) h

theorem stepT_construct {P : Params} {N : Nat} {s s' : T} {n : Nat} (h : stepT P N s (.construct n) = some s') :
    ∃ i rest, s.a.phase = .building (i :: rest) ∧ s.objDl = none ∧ n ≤ N ∧
      s' = { s with objDl := some (s.a.now + P.baseUs + P.perCmdUs * n), built := s.built + 1 } := by
  generalize hl : TLabel.construct n = tl at h
  revert h
  fun_cases stepT P N s tl <;> intro h <;> cases hl <;> cases h
  next i rest hp hc =>
  simp only [Bool.and_eq_true, Option.isNone_iff_eq_none, decide_eq_true_eq] at hc
  exact ⟨i, rest, hp, hc.1, hc.2, rfl⟩

theorem runT_project (P : Params) (N : Nat) (ls : List TLabel) (s s' : T) (h : runT P N s ls = some s') :
    run P s.a (eraseT ls) = some s'.a := by
  induction ls generalizing s with
  | nil => cases h; rfl
  | cons l ls ih =>
    rw [runT] at h
    split at h
    · next s1 hs =>
      cases l with
      | base l0 => rw [eraseT, run, stepT_base_a hs]; exact ih s1 h
      | construct n =>
        obtain ⟨_, _, _, _, _, rfl⟩ := stepT_construct hs
        -- `construct` leaves `a` alone, so the goal is the induction hypothesis up to a projection of the record
        have := ih _ h
        exact this
    · cases h

theorem runT_eq_foldlM (P : Params) (N : Nat) (s : T) (ls : List TLabel) :
    runT P N s ls = ls.foldlM (stepT P N) s := by
  induction ls generalizing s with
  | nil => rfl
  | cons l ls ih => rw [runT, List.foldlM_cons]; cases stepT P N s l <;> simp [ih]

/-- the longest single wait: `2 s + 5·spacing` per command, at most `N` commands -/
def D (P : Params) (N : Nat) : Nat := P.baseUs + P.perCmdUs * N

/-- budget after `k` objects -/
def B (P : Params) (N : Nat) (t0 k : Nat) : Nat := t0 + D P N * (1 + k)

theorem B_mono (P : Params) (N t0 : Nat) {k k' : Nat} (h : k ≤ k') : B P N t0 k ≤ B P N t0 k' :=
  Nat.add_le_add_left (Nat.mul_le_mul_left _ (Nat.add_le_add_left h 1)) t0

theorem B_succ (P : Params) (N t0 k : Nat) : B P N t0 k + D P N = B P N t0 (k + 1) := by
  rw [B, B, ← Nat.add_assoc 1 k 1, Nat.mul_add (D P N) (1 + k) 1, Nat.mul_one, Nat.add_assoc]

theorem B_zero (P : Params) (N t0 : Nat) : B P N t0 0 = t0 + D P N := by simp [B]

theorem wait_le_D (P : Params) (N n : Nat) (h : n ≤ N) : P.baseUs + P.perCmdUs * n ≤ D P N :=
  Nat.add_le_add_left (Nat.mul_le_mul_left _ h) _

/-- `built` counts the objects constructed and the one being initialised is still in `todo`: hence the `+ 1` while `objDl` is set -/
def TInvAt (P : Params) (N : Nat) (s : T) : Phase → Prop
  | .enqueueing => s.a.now = s.t0 ∧ s.objDl = none ∧ s.built = 0
  | .detecting dl => dl ≤ s.t0 + D P N ∧ s.objDl = none ∧ s.built = 0
  | .building todo =>
      match s.objDl with
      | none => s.built + todo.length = (plan P.classIds s.a.avail).length ∧ s.a.now ≤ B P N s.t0 s.built
      | some dl => s.built + todo.length = (plan P.classIds s.a.avail).length + 1 ∧ dl ≤ B P N s.t0 s.built ∧ s.a.now ≤ dl
  | .ready | .failed => ∃ t, s.doneAt = some t ∧ t ≤ B P N s.t0 (plan P.classIds s.a.avail).length
  | .fresh | .closed => True

def TInv (P : Params) (N : Nat) (s : T) : Prop := TInvAt P N s s.a.phase

theorem tinv_step {P : Params} {N : Nat} {s s' : T} {l : TLabel} (hI : Inv P s.a) (hT : TInv P N s)
    (h : stepT P N s l = some s') : TInv P N s' := by
  have hph := hI.phase
  unfold TInv at hT ⊢
  cases l with
  | construct n =>
    obtain ⟨i, rest, hp, hd, hn, rfl⟩ := stepT_construct h
    rw [hp, TInvAt, hd] at hT
    have := wait_le_D P N n hn
    have := B_succ P N s.t0 s.built
    simp only [hp, TInvAt, List.length_cons] at hT ⊢
    exact ⟨by omega, by omega, by omega⟩
  | base l0 =>
    have hst := stepT_base_a h
    generalize s'.a = a' at hst
    cases step_sound hst with
    | start => simp only [stepT, hst, Option.map_some] at h; cases h; exact ⟨rfl, rfl, rfl⟩
    | connectFails =>
      simp only [stepT, hst, Option.map_some] at h; cases h
      exact ⟨_, rfl, Nat.le_add_right ..⟩
    | wait n hp =>
      simp only [stepT, hst, Option.map_some] at h
      split at h <;> cases h
      next hn =>
      rw [hp] at hT
      have := wait_le_D P N n hn
      exact ⟨by simp only [hT.1]; omega, hT.2⟩
    | msg m hr =>
      -- the callback is registered only while the clock does not depend on `avail`
      simp only [stepT, hst, Option.map_some] at h; cases h
      simp only [onMsg_eq, Bool.and_not_self, Bool.false_eq_true, if_false]
      generalize s.a.phase = ph at hph hT
      cases ph with
      | building | ready => exact absurd (hph.1.symm.trans hr) nofun
      | failed => exact absurd (hph.2.2.symm.trans hr) nofun
      | _ => exact hT
    | msgDropped => 
      simp only [stepT, hst, Option.map_some, Bool.and_not_self, Bool.false_eq_true, if_false] at h; cases h
      exact hT
    | wake dl hp he =>
      simp only [stepT, hst, Option.map_some] at h; cases h
      rw [hp] at hT hph
      simp only [TInvAt, hT.2.1, hT.2.2, B_zero, Nat.zero_add, true_and]
      exact Nat.le_trans hph.2 hT.1
    | timeout dl hp hle =>
      simp only [stepT, hst, Option.map_some, hp, isDone, Bool.not_false, Bool.and_self, if_true] at h; cases h
      rw [hp] at hT hph
      exact ⟨_, rfl, Nat.le_trans (Nat.le_trans hph.2 hT.1) (B_zero P N s.t0 ▸ B_mono P N s.t0 (Nat.zero_le _))⟩
    | subunitOk i rest hp =>
      simp only [stepT, hst, Option.map_some] at h
      split at h <;> cases h
      next hsome =>
      obtain ⟨dl, hdl⟩ := Option.isSome_iff_exists.mp hsome
      rw [hp, TInvAt, hdl] at hT
      cases rest with
      | nil =>
        simp only [List.isEmpty_nil, if_true, TInvAt, hp, isDone, Bool.not_false, Bool.and_self, List.length_cons,
          List.length_nil] at hT ⊢
        exact ⟨_, rfl, by rw [show (plan P.classIds s.a.avail).length = s.built by omega]; omega⟩
      | cons j rest =>
        simp only [List.isEmpty_cons, Bool.false_eq_true, if_false, TInvAt, List.length_cons] at hT ⊢
        exact ⟨by omega, by omega⟩
    | subunitFails i rest hp =>
      simp only [stepT, hst, Option.map_some, hp, isDone, Bool.not_false, Bool.and_self, if_true] at h
      split at h <;> cases h
      next hsome =>
      obtain ⟨dl, hdl⟩ := Option.isSome_iff_exists.mp hsome
      rw [hp, TInvAt, hdl] at hT
      simp only [List.length_cons] at hT
      have := B_mono P N s.t0 (show s.built ≤ (plan P.classIds s.a.avail).length by omega)
      exact ⟨_, rfl, by dsimp only; omega⟩
    | close => simp only [stepT, hst, Option.map_some] at h; cases h; trivial
    | closeAgain hp =>
      simp only [stepT, hst, Option.map_some] at h; cases h
      rcases hp with hp | hp <;> (rw [hp]; trivial)
    | tickDetecting dl d hp he hle =>
      simp only [stepT, hst, Option.map_some, hp, isDone, Bool.false_and, Bool.false_eq_true, if_false] at h; cases h
      rw [hp] at hT ⊢
      exact hT
    | tick d hnd =>
      simp only [stepT, hst, Option.map_some, Bool.and_not_self, Bool.false_eq_true, if_false] at h
      split at h
      · cases h
      · cases h
      · next todo dl hp hdl =>
        split at h <;> cases h
        next hle =>
        rw [hp, TInvAt, hdl] at hT
        simp only [hp, TInvAt, hdl]
        exact ⟨hT.1, hT.2.1, hle⟩
      · next hne hbn hbs =>
        cases h
        dsimp only
        generalize s.a.phase = ph at hT hnd hne hbn hbs
        cases ph with
        | enqueueing => exact (hne rfl).elim
        | detecting dl => exact absurd rfl (hnd dl)
        | building todo =>
          cases hdl : s.objDl with
          | none => exact (hbn _ rfl hdl).elim
          | some dl => exact (hbs _ _ rfl hdl).elim
        | _ => exact hT

theorem reachable_tinv (P : Params) (N : Nat) (s : T) (h : ReachableT P N s) : Inv P s.a ∧ TInv P N s := by
  obtain ⟨ls, hr⟩ := h
  refine foldlM_invariant (fun s => Inv P s.a ∧ TInv P N s) ?_ ls {} s ⟨reachable_inv P _ ⟨[], rfl⟩, trivial⟩
    (runT_eq_foldlM P N {} ls ▸ hr)
  intro s l s' ⟨hI, hT⟩ hs
  refine ⟨?_, tinv_step hI hT hs⟩
  cases l with
  | base l0 => exact hI.step (step_sound (stepT_base_a hs))
  | construct n => obtain ⟨_, _, _, _, _, rfl⟩ := stepT_construct hs; exact hI

end Ynca.L7
