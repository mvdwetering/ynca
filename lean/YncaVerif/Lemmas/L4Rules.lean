import YncaVerif.Lemmas.L4Defs
/-! The transitions of the L4 model as rules.

`step` (Model/Conn.lean) is an executable function; every proof about it starts with the same case analysis.  Here
that analysis is done once: `Step P s l s' o` has one rule per enabled branch of `step`, with the guard as
hypotheses and the successor written out, and `step_sound` says every transition of `step` is an instance of a
rule.  Invariant proofs do `cases` on the rule. -/
namespace Ynca.L4

/-- the sender's transitions (`stepS`) -/
inductive SStep (P : Params) (s : St) : St → Option Obs → Prop
  | get {dl m q} : s.spc = .waitGet dl → s.queue = m :: q → SStep P s { s with spc := .got m, queue := q } none
  | timeout {dl} : s.spc = .waitGet dl → s.queue = [] → dl ≤ s.now → SStep P s { s with spc := .timedOut } none
  | putKA : s.spc = .timedOut →
      SStep P s { s with queue := s.queue ++ [.keepAlive], spc := .waitGet (s.now + P.kaInterval) } none
  | exit : s.spc = .got .exit → SStep P s { s with spc := .done } (some .exitS)
  | flag : s.spc = .got .keepAlive →
      SStep P s { s with spc := .logging probe none, kaPending := true, probesStarted := s.probesStarted + 1 } none
  | classify {i t} : s.spc = .got (.cmd i t) → SStep P s { s with spc := .logging t (some i) } none
  | log {t i} : s.spc = .logging t i →
      SStep P s { s with spc := .lockWait t i, log := s.log ++ [.send t] } (some (.logged tidS))
  | lock {t i} : s.spc = .lockWait t i → s.lock = none → SStep P s { s with spc := .writing t i, lock := some tidS } none
  | die {t i} : s.spc = .writing t i → (s.portOpen = false ∨ s.writeFault = true) →
      SStep P s { s with spc := .dead, lock := none } (some (.writeRejected t))
  | write {t i} : s.spc = .writing t i → s.portOpen = true → s.writeFault = false →
      SStep P s { s with spc := .unlock, wire := s.wire ++ [(s.now, t, i)] } (some (.write t))
  | unlock : s.spc = .unlock → SStep P s { s with spc := .sleeping (s.now + P.spacing), lock := none } none
  | wake {u} : s.spc = .sleeping u → u ≤ s.now → SStep P s { s with spc := .waitGet (s.now + P.kaInterval) } none

theorem stepS_sound {P : Params} {s s' : St} {o : Option Obs} (h : stepS P s = some (s', o)) : SStep P s s' o := by
  unfold stepS at h
  split at h
  case h_1 dl hp =>
    split at h
    · cases h; exact .get hp ‹_›
    · split at h
      · cases h; exact .timeout hp ‹_› ‹_›
      · cases h
  case h_2 hp => cases h; exact .putKA hp
  case h_3 hp => cases h; exact .exit hp
  case h_4 hp => cases h; exact .flag hp
  case h_5 hp => cases h; exact .classify hp
  case h_6 hp => cases h; exact .log hp
  case h_7 hp => split at h <;> cases h; exact .lock hp ‹_›
  case h_8 hp =>
    split at h
    · cases h; exact .die hp (.inr (by simp_all))
    · split at h
      · cases h; exact .write hp ‹_› (by simp_all)
      · cases h; exact .die hp (.inl (by simp_all))
  case h_9 hp => cases h; exact .unlock hp
  case h_10 hp => split at h <;> cases h; exact .wake hp ‹_›
  case h_11 => cases h

/-- The reader's transitions (all but `drain` move `rpc`).  First its own steps (`stepR`, label `r`); then those in which someone
    else has a say — which callback of the snapshot is taken next (a set has no order), what `serial.read` returns, when user
    code returns — and its start by `connect()`. -/
inductive RStep (P : Params) (s : St) : Label → St → Option Obs → Prop
  | made0 : s.rpc = .made 0 →
      RStep P s .r { s with rpc := .made 1, queueMade := true, queue := [], spc := .waitGet (s.now + P.kaInterval), madeAt := s.now } none
  | made1 : s.rpc = .made 1 →
      RStep P s .r { s with rpc := .made 2, connected := true, kaPending := false, probesAtClear := s.probesStarted } none
  | made2 : s.rpc = .made 2 → RStep P s .r { s with queue := s.queue ++ [.keepAlive], rpc := .made 3 } none
  | made3 : s.rpc = .made 3 → RStep P s .r { s with queue := s.queue ++ [.keepAlive], rpc := .setEvent } none
  | setEvent : s.rpc = .setEvent → RStep P s .r { s with rpc := .loopTest, connMade := true } none
  | read : s.rpc = .loopTest → s.alive = true → s.portOpen = true →
      RStep P s .r { s with rpc := .reading (if s.inbox.isEmpty then 1 else s.inbox.length) (some (s.now + P.readTimeout)) } none
  | stop : s.rpc = .loopTest → (s.alive = false ∨ s.portOpen = false) → RStep P s .r { s with rpc := .lost 0 } none
  | packet {p rest} : s.rpc = .split → splitFirst CR LF s.buffer = some (p, rest) →
      RStep P s .r { s with rpc := .line0 (decodeLine p), buffer := rest, rxLines := s.rxLines ++ [decodeLine p] } none
  | noPacket : s.rpc = .split → splitFirst CR LF s.buffer = none → RStep P s .r { s with rpc := .loopTest } none
  | line0 {l} : s.rpc = .line0 l →
      RStep P s .r { s with rpc := .line1 l, log := s.log ++ [.received l] } (some (.logged tidR))
  | line1 {l} : s.rpc = .line1 l →
      RStep P s .r { s with rpc := .line2 l (handleLine s.kaPending l).2,
                            decisions := s.decisions ++ [(l, (handleLine s.kaPending l).2, decide (s.probesAtClear < s.probesStarted))] } none
  | withhold {l} : s.rpc = .line2 l true →
      RStep P s .r { s with rpc := .split, kaPending := false, probesAtClear := s.probesStarted } none
  | deliver {l} : s.rpc = .line2 l false →
      RStep P s .r { s with rpc := .deliver l s.msgCbs, kaPending := false, probesAtClear := s.probesStarted } none
  | delivered {l} : s.rpc = .deliver l [] → RStep P s .r { s with rpc := .split } none
  | lost0 : s.rpc = .lost 0 → RStep P s .r { s with rpc := .lost 1, alive := false, connected := false } none
  | drain {x q} : s.rpc = .lost 1 → s.queue = x :: q → RStep P s .r { s with queue := q } none
  | drained : s.rpc = .lost 1 → s.queue = [] → RStep P s .r { s with rpc := .lost 2 } none
  | putExit : s.rpc = .lost 2 →
      RStep P s .r { s with queue := s.queue ++ [.exit], rpc := .lostJoin (s.now + P.joinTimeout) } none
  | joined {dl} : s.rpc = .lostJoin dl → (s.spc = .done ∨ s.spc = .dead ∨ dl ≤ s.now) → RStep P s .r { s with rpc := .lost 4 } none
  | discCb : s.rpc = .lost 4 → s.discCbSet = true →
      RStep P s .r { s with rpc := .inDiscCb, discCalls := s.discCalls + 1 } (some .discCb)
  | noDiscCb : s.rpc = .lost 4 → s.discCbSet = false → RStep P s .r { s with rpc := .lost 5 } none
  | exit : s.rpc = .lost 5 → RStep P s .r { s with rpc := .done } (some .exitR)
  | invoke {cb l todo} : s.rpc = .deliver l todo → todo.contains cb = true → s.msgCbs.contains cb = true →
      RStep P s (.rCb cb) { s with rpc := .inCb l cb (todo.filter (· != cb)) } (some (.msgCb cb (parseLine l)))
  | skip {cb l todo} : s.rpc = .deliver l todo → todo.contains cb = true → s.msgCbs.contains cb = false →
      RStep P s (.rCb cb) { s with rpc := .deliver l (todo.filter (· != cb)) } none
  | readData {to n dl} : s.rpc = .reading n dl → s.inbox.isEmpty = false →
      RStep P s (.rGet to) { s with rpc := .split, buffer := s.buffer ++ s.inbox.take n, inbox := s.inbox.drop n }
        (some (.readChunk (s.inbox.take n)))
  | readFault {to n dl} : s.rpc = .reading n dl → s.inbox.isEmpty = true → s.faultPending = true →
      RStep P s (.rGet to) { s with rpc := .lost 0 } (some .readFault)
  | readClosed {to n dl} : s.rpc = .reading n dl → s.inbox.isEmpty = true → s.faultPending = false → s.portOpen = false →
      RStep P s (.rGet to) { s with rpc := .loopTest } (some (.readChunk []))
  | readTimeout {n d} : s.rpc = .reading n (some d) → s.inbox.isEmpty = true → s.faultPending = false → s.portOpen = true →
      d ≤ s.now → RStep P s (.rGet true) { s with rpc := .loopTest } (some (.readChunk []))
  | cbRet {l cb todo} : s.rpc = .inCb l cb todo → s.rcall = .idle → RStep P s .cbRet { s with rpc := .deliver l todo } (some (.cbRet cb))
  | discCbRet : s.rpc = .inDiscCb → s.rcall = .idle → RStep P s .cbRet { s with rpc := .lost 5 } (some .discCbRet)
  | startR : s.rpc = .notStarted → RStep P s .startR { s with rpc := .made 0 } none

theorem stepR_sound {P : Params} {s s' : St} {o : Option Obs} (h : stepR P s = some (s', o)) : RStep P s .r s' o := by
  unfold stepR at h
  split at h
  case h_1 hp => cases h; exact .made0 hp
  case h_2 hp => cases h; exact .made1 hp
  case h_3 hp => cases h; exact .made2 hp
  case h_4 hp => cases h; exact .made3 hp
  case h_5 hp => cases h; exact .setEvent hp
  case h_6 hp =>
    split at h
    · cases h; rename_i hc; simp only [Bool.and_eq_true] at hc; exact .read hp hc.1 hc.2
    · cases h; exact .stop hp (by cases ha : s.alive <;> simp_all)
  case h_7 hp =>
    split at h
    · rename_i p rest hsp
      split at h <;> cases h
      · rename_i l hl; have := RStep.packet (P := P) hp hsp; simpa [decodeLine, hl] using this
      · rename_i hl; have := RStep.packet (P := P) hp hsp; simpa [decodeLine, hl] using this
    · cases h; exact .noPacket hp ‹_›
  case h_8 hp => cases h; exact .line0 hp
  case h_9 hp => cases h; exact .line1 hp
  case h_10 ig hp =>
    cases h; cases ig
    · exact .deliver hp
    · exact .withhold hp
  case h_11 hp => cases h; exact .delivered hp
  case h_12 hp => cases h; exact .lost0 hp
  case h_13 hp =>
    split at h
    · cases h; exact .drain hp ‹_›
    · cases h; exact .drained hp ‹_›
  case h_14 hp => cases h; exact .putExit hp
  case h_15 hp => split at h <;> cases h; exact .joined hp ‹_›
  case h_16 hp =>
    split at h
    · cases h; exact .discCb hp ‹_›
    · cases h; exact .noDiscCb hp (by simp_all)
  case h_17 hp => cases h; exact .exit hp
  case h_18 => cases h

/-- `setUpc` with every field written out, so that projections of the successor states below reduce by computation -/
@[reducible] def St.move (s : St) (t : Tid) (p : UPc) : St :=
  { s with rcall := if t = tidR then p else s.rcall, callers := if t = tidR then s.callers else setPc s.callers t p }

theorem setUpc_eq_move (s : St) (t : Tid) (p : UPc) : setUpc s t p = s.move t p := by
  unfold setUpc St.move; split <;> simp [*]

theorem lookup_setPc (cs : List (Tid × UPc)) (t t' : Tid) (p : UPc) :
    lookup (setPc cs t p) t' = if t' = t then p else lookup cs t' := by
  unfold lookup setPc
  by_cases h : t' = t
  · simp [h]
  · have h' : (t == t') = false := by simpa using fun e => h (Eq.symm e)
    simp only [List.find?_cons, h', h, ↓reduceIte, List.find?_filter]
    congr 3
    funext a
    by_cases ha : a.1 = t' <;> simp [ha, h]

theorem lookup_mem {cs : List (Tid × UPc)} {t : Tid} (h : lookup cs t ≠ .idle) : (t, lookup cs t) ∈ cs := by
  unfold lookup at *
  cases hf : cs.find? (·.1 == t) with
  | none => simp [hf] at h
  | some c =>
    have ht : c.1 = t := by simpa using List.find?_some hf
    subst ht
    exact List.mem_of_find?_eq_some hf

@[simp] theorem upcOf_move (s : St) (t t' : Tid) (p : UPc) :
    upcOf (s.move t p) t' = if t' = t then p else upcOf s t' := by
  unfold upcOf
  by_cases ht : t = tidR <;> by_cases h : t' = tidR <;> simp [ht, h, lookup_setPc, eq_comm]

/-- the steps of `close()` on thread `t`, program point by program point (`stepClose`) -/
inductive CStep (P : Params) (s : St) (t : Tid) : CPc → St → Option Obs → Prop
  | c0 : t ≠ tidR → CStep P s t .c0 (St.move { s with discCbSet := false, closeStarted := true } t (.closing .c1)) none
  | c0R : t = tidR → CStep P s t .c0 (St.move { s with discCbSet := false, closeStarted := true } t (.closing .r1)) none
  | c1 : s.lock = none → CStep P s t .c1 (St.move { s with lock := some t } t (.closing .c2)) none
  | c2 : CStep P s t .c2 (St.move { s with alive := false } t (.closing (.c3 (s.now + P.joinTimeout)))) none
  | c3 {dl} : (s.rpc = .done ∨ s.rpc = .notStarted ∨ dl ≤ s.now) → CStep P s t (.c3 dl) (St.move s t (.closing .c4)) none
  | c4 : s.portOpen = true → CStep P s t .c4 (St.move { s with portOpen := false } t (.closing .c5)) (some .portClose)
  | c4Closed : s.portOpen = false → CStep P s t .c4 (St.move { s with portOpen := false } t (.closing .c5)) none
  | c5 : CStep P s t .c5 (St.move { s with lock := none } t (.closing .c6)) none
  | c6 : CStep P s t .c6
      (St.move { s with closeReturned := true,
                        unpubCloseReturned := s.unpubCloseReturned || s.unpubClosers.contains t,
                        unpubClosers := s.unpubClosers.filter (· != t) } t .idle) (some (.callRet t))
  | r1 : CStep P s t .r1 (St.move { s with msgCbs := [] } t (.closing .r2)) none
  | r2 : CStep P s t .r2 (St.move { s with alive := false } t (.closing .r3)) none
  | r3 : s.portOpen = true → CStep P s t .r3 (St.move { s with portOpen := false } t (.closing .c6)) (some .portClose)
  | r3Closed : s.portOpen = false → CStep P s t .r3 (St.move { s with portOpen := false } t (.closing .c6)) none

theorem stepClose_sound {P : Params} {s s' : St} {t : Tid} {pc : CPc} {o : Option Obs}
    (h : stepClose P s t pc = some (s', o)) : CStep P s t pc s' o := by
  cases pc <;> simp only [stepClose, setUpc_eq_move] at h
  case c0 =>
    cases h
    split
    · exact .c0R ‹_›
    · exact .c0 ‹_›
  case c1 => split at h <;> cases h; exact .c1 ‹_›
  case c3 => split at h <;> cases h; exact .c3 ‹_›
  case c4 =>
    cases h
    cases hp : s.portOpen
    · exact .c4Closed hp
    · exact .c4 hp
  case r3 =>
    cases h
    cases hp : s.portOpen
    · exact .r3Closed hp
    · exact .r3 hp
  all_goals cases h; constructor

/-- Every transition of the model: the three programs (sender `s`, reader `r`, close() on a thread `c`), the other steps of an
    API call in progress (`stepU`), the calls themselves, and what the environment does. -/
inductive Step (P : Params) (s : St) : Label → St → Option Obs → Prop
  | s {s' o} : SStep P s s' o → Step P s .s s' o
  | r {l s' o} : RStep P s l s' o → Step P s l s' o
  | c (t) {pc s' o} : upcOf s t = .closing pc → CStep P s t pc s' o → Step P s (.u t) s' o
  | submit (t) {text} : upcOf s t = .submitting text → s.published = true → s.queueMade = true →
      Step P s (.u t)
        (St.move { s with queue := s.queue ++ [.cmd s.nextId text], submitted := s.submitted ++ [(t, s.nextId, text)],
                          nextId := s.nextId + 1 } t .returning) (some (.enqueued t))
  | noConn (t) {text} : upcOf s t = .submitting text → (s.published = false ∨ s.queueMade = false) →
      Step P s (.u t) (St.move s t .returning) none
  | ret (t) : upcOf s t = .returning → Step P s (.u t) (St.move s t .idle) (some (.callRet t))
  | call (t) {text} : mayCall s t = true → Step P s (.call t text) (St.move s t (.submitting text)) none
  | close (t) : mayCall s t = true → s.published = true → Step P s (.callClose t) (St.move s t (.closing .c0)) none
  | closeUnpubR : mayCall s tidR = true → s.published = false → s.rpc ≠ .notStarted →
      Step P s (.callClose tidR)
        (St.move { s with closeUnpub := true, unpubCloseAt := bif s.closeUnpub then s.unpubCloseAt else s.now } tidR (.closing .r1)) none
  | closeUnpub (t) : mayCall s t = true → s.published = false → s.rpc ≠ .notStarted → t ≠ tidR →
      Step P s (.callClose t)
        (St.move { s with closeUnpub := true, unpubCloseAt := bif s.closeUnpub then s.unpubCloseAt else s.now,
                          unpubClosers := t :: s.unpubClosers } t (.closing .c1)) none
  | closeNoReader (t) : mayCall s t = true → s.published = false → s.rpc = .notStarted →
      Step P s (.callClose t) (St.move s t .returning) none
  | tick {d} : d ≠ 0 → canMove P s = false → (∀ dl ∈ deadlines s, s.now + d ≤ dl ∨ dl ≤ s.now) →
      Step P s (.tick d) { s with now := s.now + d } none
  | dev {bytes} : s.portOpen = true → Step P s (.dev bytes) { s with inbox := s.inbox ++ bytes } none
  | fault : Step P s .fault { s with faultPending := true } none
  | wfault : Step P s .wfault { s with writeFault := true } none
  | reg {t cb} : Step P s (.reg t cb) { s with msgCbs := if s.msgCbs.contains cb then s.msgCbs else s.msgCbs ++ [cb] } none
  | unreg {t cb} : Step P s (.unreg t cb) { s with msgCbs := s.msgCbs.filter (· != cb) } none
  | publish : s.connMade = true → s.published = false → Step P s .publish { s with published := true } none
  | connectFailed : s.alive = false → s.published = false → s.rpc ≠ .notStarted → s.portOpen = true →
      Step P s .connectFailed { s with portOpen := false } (some .portClose)
  | connectFailedClosed : s.alive = false → s.published = false → s.rpc ≠ .notStarted → s.portOpen = false →
      Step P s .connectFailed { s with portOpen := false } none

theorem step_sound {P : Params} {s s' : St} {l : Label} {o : Option Obs} (h : step P s l = some (s', o)) : Step P s l s' o := by
  cases l <;> simp only [step, stepU, setUpc_eq_move] at h
  case s => exact .s (stepS_sound h)
  case r => exact .r (stepR_sound h)
  case u t =>
    split at h
    case h_1 => cases h
    case h_2 hp =>
      split at h
      · cases h; rename_i hc; simp only [Bool.and_eq_true] at hc; exact .submit _ hp hc.1 hc.2
      · cases h; exact .noConn _ hp (by cases ha : s.published <;> simp_all)
    case h_3 hp => cases h; exact .ret _ hp
    case h_4 hp => exact .c _ hp (stepClose_sound h)
  case call => split at h <;> cases h; exact .call _ ‹_›
  case callClose t =>
    split at h
    · rename_i hm
      split at h
      · cases h; exact .close _ hm ‹_›
      · rename_i hp
        simp only [Bool.not_eq_true] at hp
        split at h
        · rename_i hr
          split at h
          · rename_i ht; subst ht; cases h; exact .closeUnpubR hm hp hr
          · cases h; exact .closeUnpub _ hm hp hr ‹_›
        · cases h; exact .closeNoReader _ hm hp (by simp_all)
    · cases h
  case tick d =>
    split at h
    · cases h
    · rename_i hc
      split at h <;> cases h
      rename_i hd
      simp only [not_or, Bool.not_eq_true] at hc
      exact .tick hc.1 hc.2 (fun dl hdl => by simpa using List.all_eq_true.mp hd dl hdl)
  case dev => split at h <;> cases h; exact .dev ‹_›
  case fault => cases h; exact .fault
  case wfault => cases h; exact .wfault
  case reg => cases h; exact .reg
  case unreg => cases h; exact .unreg
  case rCb cb =>
    split at h
    · rename_i hp
      split at h
      · split at h <;> cases h
        · exact .r (.invoke hp ‹_› ‹_›)
        · exact .r (.skip hp ‹_› (by simp_all))
      · cases h
    · cases h
  case rGet to =>
    split at h
    · rename_i n dl hp
      split at h
      · cases h; exact .r (.readData hp (by simp_all))
      · rename_i hi
        simp only [Bool.not_eq_true, Bool.not_eq_false'] at hi
        split at h
        · cases h; exact .r (.readFault hp hi ‹_›)
        · rename_i hf
          simp only [Bool.not_eq_true] at hf
          split at h
          · cases h; exact .r (.readClosed hp hi hf (by simp_all))
          · cases dl with
            | none => simp at h
            | some d =>
              simp only [Bool.and_eq_true, decide_eq_true_eq] at h
              split at h <;> cases h
              rename_i ht
              obtain ⟨rfl, ht⟩ := ht
              exact .r (.readTimeout hp hi hf (by simp_all) ht)
    · cases h
  case cbRet =>
    split at h
    · split at h <;> cases h; exact .r (.cbRet ‹_› ‹_›)
    · split at h <;> cases h; exact .r (.discCbRet ‹_› ‹_›)
    · cases h
  case startR => split at h <;> cases h; exact .r (.startR ‹_›)
  case publish => split at h <;> cases h; rename_i hc; exact .publish hc.1 (by simpa using hc.2)
  case connectFailed =>
    split at h <;> cases h
    rename_i hc
    cases hp : s.portOpen
    · exact .connectFailedClosed hc.1 hc.2.1 hc.2.2 hp
    · exact .connectFailed hc.1 hc.2.1 hc.2.2 hp

/-- the one rule that writes to the port -/
theorem Step.write_inv {P : Params} {s s' : St} {l : Label} {t : String} (h : Step P s l s' (some (.write t))) :
    ∃ i, s.spc = .writing t i ∧ s.portOpen = true ∧ s.writeFault = false ∧
      l = .s ∧ s' = { s with spc := .unlock, wire := s.wire ++ [(s.now, t, i)] } := by
  cases h with
  | s h => cases h with | write hp ho hf => exact ⟨_, hp, ho, hf, rfl, rfl⟩
  | r h | c _ _ h => cases h

/-- the one rule that starts a message callback -/
theorem Step.msgCb_inv {P : Params} {s s' : St} {l : Label} {cb : Nat} {m : Msg} (h : Step P s l s' (some (.msgCb cb m))) :
    ∃ ln todo, s.rpc = .deliver ln todo ∧ todo.contains cb = true ∧ s.msgCbs.contains cb = true ∧ m = parseLine ln ∧
      l = .rCb cb ∧ s' = { s with rpc := .inCb ln cb (todo.filter (· != cb)) } := by
  cases h with
  | r h => cases h with | invoke hp ht hm => exact ⟨_, _, hp, ht, hm, rfl, rfl, rfl⟩
  | s h | c _ _ h => cases h

/-- thread `t0` moves to `p`: what holds of `p` for `t0` and, for every other thread, of its program point as before, holds of
    every thread's program point afterwards -/
theorem upcOf_move_cases {Q : UPc → Prop} {s : St} {t0 t : Tid} {p : UPc} (hp : t = t0 → Q p) (hs : t ≠ t0 → Q (upcOf s t)) :
    Q (upcOf (s.move t0 p) t) := by
  rw [upcOf_move]
  split
  · exact hp ‹_›
  · exact hs ‹_›

theorem mayCall_reader {s : St} (h : mayCall s tidR = true) : readerInCallback s.rpc = true := by
  simp only [mayCall, if_true, Bool.and_eq_true] at h; exact h.1

theorem mayCall_idle {s : St} {t : Tid} (h : mayCall s t = true) : upcOf s t = .idle := by
  have beq_idle : ∀ x : UPc, (x == .idle) = true → x = .idle := fun x hx => by cases x <;> first | rfl | cases hx
  unfold mayCall at h
  unfold upcOf
  split <;> simp only [*, ↓reduceIte, Bool.and_eq_true] at h
  · exact beq_idle _ h.2
  · exact beq_idle _ h

/-- what is only ever set: the reader's life cycle (started, in `connection_lost`, ended) and the flags that record that
    something has happened to the connection.  Read backwards: what a connection can only lose.  (In a step lemma take
    `h.later` before `cases h`: afterwards `h` is gone.) -/
structure Later (s s' : St) : Prop where
  started : s.rpc ≠ .notStarted → s'.rpc ≠ .notStarted
  loss : lossBegun s.rpc = true → lossBegun s'.rpc = true
  done : s.rpc = .done → s'.rpc = .done
  closeStarted : s.closeStarted = true → s'.closeStarted = true
  closeUnpub : s.closeUnpub = true → s'.closeUnpub = true
  writeFault : s.writeFault = true → s'.writeFault = true
  portOpen : s.portOpen = false → s'.portOpen = false
  closeReturned : s.closeReturned = true → s'.closeReturned = true

/-- every rule that moves the reader moves it forward in its life cycle; `c0`, the unpublished entry into close(), `wfault`,
    the rules that close the port and the return `c6` of a close() set their flag; no rule clears one -/
theorem Step.later {P : Params} {s s' : St} {l : Label} {o : Option Obs} (h : Step P s l s' o) : Later s s' := by
  cases h with
  | r h => cases h <;> refine ⟨?_, ?_, ?_, id, id, id, id, id⟩ <;> simp [*, lossBegun]
  | c _ _ h =>
    cases h with
    | c0 | c0R => exact ⟨id, id, id, fun _ => rfl, id, id, id, id⟩
    | c4 | c4Closed | r3 | r3Closed => exact ⟨id, id, id, id, id, id, fun _ => rfl, id⟩
    | c6 => exact ⟨id, id, id, id, id, id, id, fun _ => rfl⟩
    | _ => exact ⟨id, id, id, id, id, id, id, id⟩
  | closeUnpub | closeUnpubR => exact ⟨id, id, id, id, fun _ => rfl, id, id, id⟩
  | wfault => exact ⟨id, id, id, id, id, fun _ => rfl, id, id⟩
  | connectFailed | connectFailedClosed => exact ⟨id, id, id, id, id, id, fun _ => rfl, id⟩
  | s h => cases h <;> exact ⟨id, id, id, id, id, id, id, id⟩
  | _ => exact ⟨id, id, id, id, id, id, id, id⟩

theorem Later.loss_back {s s' : St} (L : Later s s') (h : lossBegun s'.rpc = false) : lossBegun s.rpc = false :=
  Bool.eq_false_iff.2 fun hl => Bool.eq_false_iff.1 h (L.loss hl)

/-- `canMove P s = false` spelled out: no thread of the library has an enabled step, no callback of a delivery is left to
    take, and a blocking read has nothing to return -/
theorem canMove_false {P : Params} {s : St} (h : canMove P s = false) :
    stepS P s = none ∧ stepR P s = none ∧ (∀ t, stepU P s t = none) ∧ (∀ l c cs, s.rpc ≠ .deliver l (c :: cs)) ∧
      ∀ n dl, s.rpc = .reading n dl → s.inbox.isEmpty = true ∧ s.faultPending = false ∧ s.portOpen = true := by
  simp only [canMove, Bool.or_eq_false_iff, Option.isSome_eq_false_iff, Option.isNone_iff_eq_none,
    List.any_eq_false] at h
  obtain ⟨⟨⟨⟨⟨hS, hR⟩, hUR⟩, hD⟩, hU⟩, hG⟩ := h
  refine ⟨hS, hR, fun t => ?_, fun l c cs e => by simp [e] at hD, fun n dl e => by simpa [e, and_assoc] using hG⟩
  by_cases ht : t = tidR
  · exact ht ▸ hUR
  · by_cases hi : upcOf s t = .idle
    · simp [stepU, hi]
    · simp only [upcOf, ht, if_false] at hi
      simpa using hU _ (lookup_mem hi)

theorem stepS_none {P : Params} {s : St} (h : stepS P s = none) :
    match s.spc with
    | .waitGet dl => s.queue = [] ∧ s.now < dl
    | .sleeping u => s.now < u
    | .lockWait _ _ => s.lock ≠ none
    | .notStarted => True
    | .done => True
    | .dead => True
    | _ => False := by
  cases hpc : s.spc <;> simp only [stepS, hpc] at h ⊢ <;> (try trivial)
  case waitGet dl => split at h <;> simp_all
  case got m => cases m <;> simp at h
  all_goals (split at h <;> (try split at h) <;> simp_all)

end Ynca.L4
