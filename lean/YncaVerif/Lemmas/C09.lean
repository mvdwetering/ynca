import YncaVerif.Lemmas.Subunit
/-! Update callbacks (C09): what a history of messages appends to the invocation record, and what a walk
    over a snapshot of re-entrant callbacks invokes. -/
namespace Ynca

def StaysRegistered (script : Nat → List CbOp) (snapshot : List Nat) (cb : Nat) : Prop :=
  ∀ c ∈ snapshot, ∀ op ∈ script c, op ≠ .unreg cb ∧ op ≠ .close

theorem recv_calls_prefix (tbls : List EnumTbl) (ex : Exotic) (st : SubSt) (m : Msg) :
    ∃ more, (recv tbls ex st m).calls = st.calls ++ more ∧ ∀ c ∈ more, c.cb ∈ st.cbs := by
  have hnil : ∃ more, st.calls = st.calls ++ more ∧ ∀ c ∈ more, c.cb ∈ st.cbs :=
    ⟨[], (List.append_nil _).symm, nofun⟩
  rw [recv_calls]
  split
  · split
    · refine ⟨_, rfl, fun c hc => ?_⟩
      obtain ⟨cb, hcb, rfl⟩ := List.mem_map.mp hc
      exact hcb
    · exact hnil
  · exact hnil

theorem foldl_recv_calls_prefix (tbls : List EnumTbl) (ex : Exotic) (st : SubSt) (h : List Msg) :
    ∃ more, (h.foldl (recv tbls ex) st).calls = st.calls ++ more ∧ ∀ c ∈ more, c.cb ∈ st.cbs := by
  induction h generalizing st with
  | nil => exact ⟨[], (List.append_nil _).symm, nofun⟩
  | cons m h ih =>
    obtain ⟨more₁, h1, hm1⟩ := recv_calls_prefix tbls ex st m
    obtain ⟨more₂, h2, hm2⟩ := ih (recv tbls ex st m)
    refine ⟨more₁ ++ more₂, by rw [List.foldl_cons, h2, h1, List.append_assoc], fun c hc => ?_⟩
    rcases List.mem_append.mp hc with hc | hc
    · exact hm1 c hc
    · exact foldl_recv_cbs tbls ex st [m] ▸ hm2 c hc

theorem foldl_recv_of_closed (tbls : List EnumTbl) (ex : Exotic) {st : SubSt} (hc : st.closed = true)
    (h : List Msg) : h.foldl (recv tbls ex) st = st :=
  List.foldlRecOn (motive := (· = st)) h _ rfl fun _ hs m _ => by rw [hs, recv_of_closed tbls ex hc]

theorem applyCbOp_calls (s : SubSt) (op : CbOp) : (applyCbOp s op).calls = s.calls := by
  cases op with
  | reg cb =>
    simp only [applyCbOp, registerCb]
    split
    · rfl
    · split <;> rfl
  | unreg cb => rfl
  | close => rfl

theorem foldl_applyCbOp_calls (ops : List CbOp) (s : SubSt) : (ops.foldl applyCbOp s).calls = s.calls :=
  List.foldlRecOn (motive := fun s' : SubSt => s'.calls = s.calls) ops _ rfl fun _ hs op _ => by rw [applyCbOp_calls, hs]

theorem applyCbOp_keeps {s : SubSt} {cb : Nat} (hk : cb ∈ s.cbs ∧ s.closed = false) {op : CbOp}
    (hop : op ≠ .unreg cb ∧ op ≠ .close) : cb ∈ (applyCbOp s op).cbs ∧ (applyCbOp s op).closed = false := by
  cases op with
  | reg c =>
    simp only [applyCbOp, registerCb, hk.2, Bool.false_eq_true, if_false]
    split
    · exact hk
    · exact ⟨List.mem_append_left _ hk.1, rfl⟩
  | unreg c =>
    have hne : cb ≠ c := fun e => hop.1 (by rw [e])
    exact ⟨List.mem_filter.mpr ⟨hk.1, by simpa using hne⟩, hk.2⟩
  | close => exact absurd rfl hop.2

theorem foldl_applyCbOp_keeps {s : SubSt} {cb : Nat} (hk : cb ∈ s.cbs ∧ s.closed = false) (ops : List CbOp)
    (hops : ∀ op ∈ ops, op ≠ .unreg cb ∧ op ≠ .close) :
    cb ∈ (ops.foldl applyCbOp s).cbs ∧ (ops.foldl applyCbOp s).closed = false :=
  List.foldlRecOn (motive := fun s : SubSt => cb ∈ s.cbs ∧ s.closed = false) ops _ hk
    fun _ hs op hop => applyCbOp_keeps hs (hops op hop)

theorem deliverSnapshot_calls (script : Nat → List CbOp) (f : String) (val : Val) (snap : List Nat) (s : SubSt) :
    ∃ inv : List Nat, inv.Sublist snap ∧
      (deliverSnapshot script f val snap s).calls = s.calls ++ inv.map (fun cb => ⟨cb, f, val⟩) ∧
      ∀ cb ∈ snap, cb ∈ s.cbs → s.closed = false → StaysRegistered script snap cb → cb ∈ inv := by
  induction snap generalizing s with
  | nil => exact ⟨[], .slnil, (List.append_nil _).symm, nofun⟩
  | cons c rest ih =>
    have hrest : ∀ cb ∈ c :: rest, cb ≠ c → cb ∈ rest := fun cb hcb hne => (List.mem_cons.mp hcb).resolve_left hne
    unfold deliverSnapshot
    split
    · obtain ⟨inv, h1, h2, h3⟩ := ih ((script c).foldl applyCbOp { s with calls := s.calls ++ [⟨c, f, val⟩] })
      refine ⟨c :: inv, h1.cons_cons c, ?_, fun cb hcb hmem hopen hstay => ?_⟩
      · rw [h2, foldl_applyCbOp_calls, List.map_cons, List.append_assoc, List.singleton_append]
      · by_cases hcc : cb = c
        · exact hcc ▸ List.mem_cons_self ..
        · obtain ⟨k1, k2⟩ := foldl_applyCbOp_keeps (s := { s with calls := s.calls ++ [⟨c, f, val⟩] })
            ⟨hmem, hopen⟩ (script c) (hstay c (List.mem_cons_self ..))
          exact List.mem_cons_of_mem _
            (h3 cb (hrest cb hcb hcc) k1 k2 fun x hx => hstay x (List.mem_cons_of_mem _ hx))
    · rename_i hfire
      obtain ⟨inv, h1, h2, h3⟩ := ih s
      refine ⟨inv, h1.cons c, h2, fun cb hcb hmem hopen hstay => ?_⟩
      have hcc : cb ≠ c := fun e => hfire (by simp [← e, hmem, hopen])
      exact h3 cb (hrest cb hcb hcc) hmem hopen fun x hx => hstay x (List.mem_cons_of_mem _ hx)

theorem deliverSnapshot_inert (f : String) (val : Val) (snap : List Nat) (s : SubSt)
    (hopen : s.closed = false) (hsub : ∀ c ∈ snap, c ∈ s.cbs) :
    deliverSnapshot (fun _ => []) f val snap s =
      { s with calls := s.calls ++ snap.map (fun cb => ⟨cb, f, val⟩) } := by
  induction snap generalizing s with
  | nil => simp [deliverSnapshot]
  | cons c rest ih =>
    have hc : c ∈ s.cbs := hsub c (List.mem_cons_self ..)
    unfold deliverSnapshot
    rw [if_pos (by simp [hc, hopen])]
    dsimp only [List.foldl_nil]
    rw [ih { s with calls := s.calls ++ [⟨c, f, val⟩] } hopen fun x hx => hsub x (List.mem_cons_of_mem _ hx)]
    simp

end Ynca
