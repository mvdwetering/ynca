import YncaVerif.Model.Server
/-! The test server model (C18 / C19).

The store is read as a partial map `lookup`; `addData` is assignment in that map and `putData` assignment to
a key that is present.  `handlePut` is taken apart once (`handlePut_eq`) into the value it stores, `putData`
and `report`; what the handlers guarantee is the predicate `Reply`.

A trap: a unification that has to compare `(handleCommand T va st line).1` (or `lineToCommand line`) with another term evaluates the
line parser on the variable `line` and runs for many seconds before it fails or succeeds.  Rewrite (`rw [List.foldl_cons, ih]`), give
`List.foldlRecOn` its motive, and generalise `lineToCommand …` before a `rfl` between two `match`es. -/
namespace Ynca.Srv

/-- Assignment `d[k] = g(d[k]) if k in d else dflt` in an insertion-ordered dict, as `setKey` and `addData` spell it. -/
theorem find?_assign {β} (l : List (String × β)) (k k' : String) (g : β → β) (dflt : β) :
    (if l.any (·.1 == k) then l.map (fun e => if e.1 == k then (k, g e.2) else e) else l ++ [(k, dflt)]).find? (·.1 == k') =
      if k' = k then some (k, ((l.find? (·.1 == k)).map (g ·.2)).getD dflt) else l.find? (·.1 == k') := by
  have hupd : ((·.1 == k') ∘ fun e : String × β => if e.1 == k then (k, g e.2) else e) = (·.1 == k') := by
    funext e; simp only [Function.comp]; split <;> simp_all
  rw [← List.isSome_find?]
  cases h : l.find? (·.1 == k) with
  | none =>     -- a new key goes to the end
    simp only [Option.isSome_none, Bool.false_eq_true, if_false, List.find?_append, Option.map_none, Option.getD_none]
    split
    · subst k'; simp [h]
    · rename_i hk
      have : (k == k') = false := beq_false_of_ne (Ne.symm hk)
      simp [this]
  | some e =>   -- an old key keeps its place
    have he : e.1 = k := by simpa using List.find?_some h
    simp only [Option.isSome_some, if_true, List.find?_map, hupd, Option.map_some, Option.getD_some]
    split
    · subst k'; simp [h, he]
    · cases h' : l.find? (·.1 == k') with
      | none => rfl
      | some e' => have := List.find?_some h'; simp_all

theorem find?_setKey (sub : Sub) (f v f' : String) :
    (setKey sub f v).find? (·.1 == f') = if f' = f then some (f, v) else sub.find? (·.1 == f') := by
  rw [setKey, find?_assign sub f f' (fun _ => v) v]
  cases sub.find? (·.1 == f) <;> rfl

theorem subOf_addData (st : Store) (s f v s' : String) :
    subOf (addData st s f v) s' = if s' = s then some (setKey ((subOf st s).getD []) f v) else subOf st s' := by
  rw [subOf, addData, find?_assign st s s' (setKey · f v) [(f, v)], subOf]
  split
  · cases st.find? (·.1 == s) <;> rfl
  · rfl

def lookup (st : Store) (s f : String) : Option String :=
  (subOf st s).bind fun sub => (sub.find? (·.1 == f)).map (·.2)

theorem getData_eq (st : Store) (s f : String) : getData st s f = (lookup st s f).getD UNDEFINED := by
  unfold getData lookup
  cases subOf st s with
  | none => rfl
  | some sub => simp only [Option.bind_some]; cases sub.find? (·.1 == f) <;> rfl

theorem hasKey_eq (st : Store) (s f : String) : hasKey st s f = (lookup st s f).isSome := by
  unfold hasKey lookup
  cases subOf st s with
  | none => rfl
  | some sub => simp only [Option.bind_some, Option.isSome_map, List.isSome_find?]

theorem lookup_addData (st : Store) (s f v s' f' : String) :
    lookup (addData st s f v) s' f' = if (s', f') = (s, f) then some v else lookup st s' f' := by
  unfold lookup
  rw [subOf_addData]
  by_cases hs : s' = s
  · subst hs
    simp only [if_true, Option.bind_some, find?_setKey, Prod.mk.injEq, true_and]
    split
    · rfl
    · cases subOf st s' <;> rfl
  · simp only [hs, if_false, Prod.mk.injEq, false_and]

theorem getData_addData (st : Store) (s f v s' f' : String) :
    getData (addData st s f v) s' f' = if (s', f') = (s, f) then v else getData st s' f' := by
  simp only [getData_eq, lookup_addData]; split <;> rfl

theorem putData_eq (st : Store) (s f v : String) :
    putData st s f v = match lookup st s f with
      | none => (st, if (subOf st s).isSome then UNDEFINED else RESTRICTED, false)
      | some old => (if v != UNDEFINED && v != RESTRICTED then addData st s f v else st, "OK", old != v) := by
  unfold putData lookup
  cases subOf st s with
  | none => rfl
  | some sub => simp only [Option.bind_some]; cases sub.find? (·.1 == f) <;> rfl

theorem hasKey_putData (st : Store) (s f v s' f' : String) :
    hasKey (putData st s f v).1 s' f' = hasKey st s' f' := by
  rw [putData_eq]
  cases h : lookup st s f with
  | none => rfl
  | some old =>
    simp only
    split
    · simp only [hasKey_eq, lookup_addData]
      split
      · rename_i h'; cases h'; rw [h]; rfl
      · rfl
    · rfl

theorem isError_putData (st : Store) (s f v : String) : isError (putData st s f v).2.1 = !hasKey st s f := by
  rw [putData_eq, hasKey_eq]
  cases lookup st s f with
  | none => simp only; split <;> rfl
  | some _ => rfl

/-- a value line: `@S:F=V` with `V ≠ "?"`, handled as data by `fill_from_file` -/
def IsValueLine (cmd : Option Cmd) (raw : String) (c : Cmd) : Prop :=
  lineToCommand (cleanLine raw) = some c ∧ c.value ≠ "?" ∧
  (cmd = none ∨ (hasMarker (cleanLine raw) RESTRICTED = false ∧ hasMarker (cleanLine raw) UNDEFINED = false))

theorem ingestLine_command (st : Store) (cmd : Option Cmd) (raw : String)
    (h : cmd = none ∨ (hasMarker (cleanLine raw) RESTRICTED || hasMarker (cleanLine raw) UNDEFINED) = false) :
    ingestLine (st, cmd) raw = match lineToCommand (cleanLine raw) with
      | some c => (if c.value != "?" then addData st c.subunit c.function c.value else st, some c)
      | none => (st, none) := by
  simp only [ingestLine]
  -- `lineToCommand` is generalised first: `rfl` between the two `match`es would try to evaluate it
  generalize lineToCommand (cleanLine raw) = o
  cases cmd with
  | none => cases o <;> rfl
  | some c0 =>
    simp only [h.resolve_left nofun, Bool.false_eq_true, if_false]
    cases o <;> rfl

theorem ingestLine_marker (st : Store) (c : Cmd) (raw : String)
    (h : (hasMarker (cleanLine raw) RESTRICTED || hasMarker (cleanLine raw) UNDEFINED) = true) :
    ingestLine (st, some c) raw =
      (if getData st c.subunit c.function == UNDEFINED then
        addData st c.subunit c.function (if hasMarker (cleanLine raw) RESTRICTED then RESTRICTED else UNDEFINED)
       else st, some c) := by
  simp only [ingestLine, h, if_true]; split <;> rfl

theorem ingestLine_frame (st : Store) (cmd : Option Cmd) (raw : String) (s f : String) :
    getData (ingestLine (st, cmd) raw).1 s f = getData st s f ∨
    (∃ c, lineToCommand (cleanLine raw) = some c ∧ (c.subunit, c.function) = (s, f)) ∨
    getData st s f = UNDEFINED := by
  cases hm : cmd.isSome && (hasMarker (cleanLine raw) RESTRICTED || hasMarker (cleanLine raw) UNDEFINED) with
  | false =>
    rw [ingestLine_command st cmd raw (by cases cmd <;> simp_all)]
    cases hc : lineToCommand (cleanLine raw) with
    | none => exact .inl rfl
    | some c =>
      by_cases hk : (s, f) = (c.subunit, c.function)
      · exact .inr (.inl ⟨c, rfl, hk.symm⟩)
      · refine .inl ?_
        simp only
        split
        · exact (getData_addData ..).trans (if_neg hk)
        · rfl
  | true =>
    obtain ⟨c, rfl⟩ := Option.isSome_iff_exists.1 (Bool.and_eq_true_iff.1 hm).1
    rw [ingestLine_marker st c raw (Bool.and_eq_true_iff.1 hm).2]
    simp only
    split
    · rename_i hu
      by_cases hk : (s, f) = (c.subunit, c.function)
      · cases hk; exact .inr (.inr (beq_iff_eq.1 hu))
      · exact .inl ((getData_addData ..).trans (if_neg hk))
    · exact .inl rfl

/-- functions with special coupling in the handlers (by name), from the statement plus the handlers' tables -/
def specialName (T : Tables) (f : String) : Bool :=
  ["PWR", "PWRB", "STRAIGHT", "SOUNDPRG", "PUREDIRMODE", "DIRMODE", "PLAYBACK", "MEM", "REMOTECODE", "INPNAME", "SCENENAME"].contains f ||
  T.multi.any (·.1 == f) || T.related.any (·.1 == f)

def OrdinaryPut (T : Tables) (f v : String) : Prop :=
  specialName T f = false ∧ ((f = "VOL" ∨ f = "ZONEBVOL") → relStep v = none) ∧ isError v = false

def WellFormed (l : String) : Prop := isError l = true ∨ ∃ s f v, l = valueLine s f v

def GetLine (st : Store) (s : String) (l : String) : Prop :=
  isError l = true ∨ (∃ g, l = valueLine s g (getData st s g) ∧ isError (getData st s g) = false) ∨
    l = valueLine s "STRAIGHT" "On"

def MembersXorError (out : List String) : Prop :=
  out = [UNDEFINED] ∨ (out ≠ [] ∧ ∀ l ∈ out, isError l = false)

theorem specialName_false {T : Tables} {f : String} (h : specialName T f = false) :
    (f == "PWR") = false ∧ (f == "STRAIGHT") = false ∧ (f == "DIRMODE") = false ∧ (f == "PLAYBACK") = false ∧
    (f == "MEM") = false ∧ (f == "REMOTECODE") = false ∧ (f == "INPNAME") = false ∧ (f == "SCENENAME") = false ∧
    T.multi.find? (·.1 == f) = none ∧ T.related.find? (·.1 == f) = none := by
  simp only [specialName, Bool.or_eq_false_iff, ← List.isSome_find?] at h
  obtain ⟨⟨h1, h2⟩, h3⟩ := h
  simp at h1
  rw [Option.isSome_eq_false_iff, Option.isNone_iff_eq_none] at h2 h3
  simp [h1, h2, h3]

theorem sendStored_fst (st : Store) (s f : String) (sk : Bool) :
    (sendStored st s f sk).1 = if isError (getData st s f) then (if sk then [] else [getData st s f])
      else [valueLine s f (getData st s f)] := by
  unfold sendStored; simp only; split <;> rfl

theorem valueLine_ne_of_no_colon (s f v : String) {lit : String} (hl : ':' ∉ lit.toList) : valueLine s f v ≠ lit := by
  intro h
  apply hl
  rw [← h]
  simp [valueLine, String.toList_append]

theorem isError_valueLine (s f v : String) : isError (valueLine s f v) = false := by
  simp only [isError, Bool.or_eq_false_iff, beq_eq_false_iff_ne]
  exact ⟨valueLine_ne_of_no_colon s f v (by decide), valueLine_ne_of_no_colon s f v (by decide)⟩

theorem WellFormed.valueLine (s f v : String) : WellFormed (valueLine s f v) := .inr ⟨s, f, v, rfl⟩

theorem WellFormed.ne_crash {l : String} (h : WellFormed l) : l ≠ crashMarker := by
  rcases h with h | ⟨s, f, v, rfl⟩
  · intro hc; subst hc; exact absurd h (by decide)
  · exact valueLine_ne_of_no_colon s f v (by decide)

theorem GetLine.wellFormed {st : Store} {s l : String} (h : GetLine st s l) : WellFormed l := by
  rcases h with h | ⟨g, h, _⟩ | h
  · exact .inl h
  · exact .inr ⟨_, _, _, h⟩
  · exact .inr ⟨_, _, _, h⟩

/-- the answers `out`, or one error line if nothing was sent: the end of every multi-line GET -/
theorem forall_mem_orUndefined {P : String → Prop} {out : List String} (hU : P UNDEFINED) (h : ∀ l ∈ out, P l) :
    ∀ l ∈ (if out.isEmpty then [UNDEFINED] else out), P l := by
  split
  · simpa using hU
  · exact h

theorem sendStored_getLine (st : Store) (s f : String) (sk : Bool) :
    ∀ l ∈ (sendStored st s f sk).1, GetLine st s l := by
  intro l hl
  rw [sendStored_fst] at hl
  split at hl
  · rename_i he
    cases sk
    · rw [List.mem_singleton.1 hl]; exact .inl he
    · cases hl
  · rename_i he
    rw [List.mem_singleton.1 hl]
    exact .inr (.inl ⟨f, rfl, by simpa using he⟩)

theorem handleGet1_getLine (st : Store) (s : String) (sup : Bool) (fuel : Nat) :
    ∀ f, ∀ l ∈ handleGet1 st s f sup fuel, GetLine st s l := by
  induction fuel with
  | zero => intro f l hl; cases hl
  | succ n ih =>
    intro f
    have names (keys : Sub) : ∀ l ∈ (let out := keys.flatMap fun e => (sendStored st s e.1 true).1
        if out.isEmpty then [UNDEFINED] else out), GetLine st s l :=
      forall_mem_orUndefined (.inl rfl) fun l hl => by
        obtain ⟨e, _, h⟩ := List.mem_flatMap.1 hl
        exact sendStored_getLine _ _ _ _ l h
    rw [handleGet1]
    split           -- SYS:INPNAME: the stored INPNAME… members
    · exact names _
    split           -- SCENENAME: the stored SCENE…NAME members
    · exact names _
    split           -- DIRMODE: the stored value, then STRAIGHT's answer if it is On
    · intro l hl
      have hs := sendStored_getLine st s f sup
      split at hl
      rename_i out v heq
      rw [heq] at hs
      split at hl
      · exact (List.mem_append.1 hl).elim (hs l) (ih _ l)
      · exact hs l hl
    split           -- STRAIGHT under an active direct mode: the one synthesised line
    · rename_i h
      simp only [Bool.and_eq_true, beq_iff_eq] at h
      intro l hl
      rw [h.1, List.mem_singleton] at hl
      exact .inr (.inr hl)
    · exact sendStored_getLine _ _ _ _

theorem handleGet_getLine (tables : List (String × List String)) (st : Store) (s f : String) :
    ∀ l ∈ handleGet tables st s f, GetLine st s l := by
  unfold handleGet
  split
  · exact handleGet1_getLine _ _ _ _ _
  · exact forall_mem_orUndefined (.inl rfl) fun l hl => by
      obtain ⟨g, _, h⟩ := List.mem_flatMap.1 hl
      exact handleGet1_getLine _ _ _ _ _ l h

theorem names_membersXorError (st : Store) (s : String) (keys : Sub) :
    MembersXorError (let out := keys.flatMap fun e => (sendStored st s e.1 true).1
      if out.isEmpty then [UNDEFINED] else out) := by
  simp only
  split
  · exact .inl rfl
  · rename_i hne
    refine .inr ⟨fun h => hne (by rw [h]; rfl), fun l hl => ?_⟩
    obtain ⟨e, _, h⟩ := List.mem_flatMap.1 hl
    rw [sendStored_fst] at h
    split at h
    · cases h
    · rw [List.mem_singleton.1 h]; exact isError_valueLine ..

theorem handleGet1_names (st : Store) (s f : String) (sup : Bool) (n : Nat)
    (h : (s = "SYS" ∧ f = "INPNAME") ∨ f = "SCENENAME") : MembersXorError (handleGet1 st s f sup (n + 1)) := by
  rw [handleGet1]
  split
  · exact names_membersXorError ..
  · rename_i h1
    have hf : f = "SCENENAME" := h.resolve_left (by simpa using h1)
    rw [if_pos (beq_iff_eq.2 hf)]
    exact names_membersXorError ..

/-- the text `handle_put` stores: on a volume function a relative step becomes the new volume, unless the
    arithmetic raises -/
def putValue (va : VolArith) (st : Store) (s f v0 : String) : String :=
  if f == "VOL" || f == "ZONEBVOL" then
    (match relStep v0 with
     | some (up, some halves) => (match va (getData st s f) (if up then halves else -halves) with
        | some nv => nv
        | none => v0)
     | _ => v0)
  else v0

def reportTarget (T : Tables) (st : Store) (s f : String) : Option String :=
  if f == "PLAYBACK" && T.zones.contains s then
    (T.inputMap.find? (fun m => m.1 == getData st s "INP")).bind (fun m => m.2.head?)
  else some s

def reportLines (T : Tables) (st : Store) (s f v : String) : List String :=
  match (T.related.find? (·.1 == f)).map (·.2) with
  | some fs => (fs.filter (fun g => getData st s g != UNDEFINED)).map (fun g => valueLine s g (getData st s g))
  | none => [valueLine s f v]

/-- `handle_put` after `put_data` has changed the value to `v` -/
def report (T : Tables) (st : Store) (s f v : String) : Store × List String :=
  let pb := f == "PLAYBACK"
  if pb && !(v == "Play" || v == "Pause" || v == "Stop") then (st, []) else
  let f' := if pb then "PLAYBACKINFO" else f
  match reportTarget T st s f with
  | none => (st, [crashMarker])
  | some s' =>
    if f' == "PWR" then ((pwrCoupling T st s' f' v).1, reportLines T st s' f' v ++ (pwrCoupling T st s' f' v).2)
    else (st, reportLines T st s' f' v)

/-- `handlePut` in these parts.  The stored text is a variable, so that a caller who knows it (`putValue_eq_self`)
    has nothing to rewrite. -/
theorem handlePut_eq (T : Tables) (va : VolArith) (st : Store) (s f v0 : String) {v : String}
    (hv : putValue va st s f v0 = v) :
    handlePut T va st s f v0 =
      if s == "SYS" && f == "REMOTECODE" then (st, if v0.length != 8 then [UNDEFINED] else [])
      else if f == "MEM" then (st, [])
      else if isError (putData st s f v).2.1 then ((putData st s f v).1, [(putData st s f v).2.1])
      else if !(putData st s f v).2.2 then ((putData st s f v).1, [])
      else report T (putData st s f v).1 s f v :=
  -- by unfolding: the model's `let (st1, res, changed) := putData …` against the projections here
  hv ▸ rfl

theorem putValue_eq_self (va : VolArith) (st : Store) (s f v : String)
    (h : (f = "VOL" ∨ f = "ZONEBVOL") → relStep v = none) : putValue va st s f v = v := by
  unfold putValue
  split
  · rename_i hf
    rw [h (by simpa using hf)]
  · rfl

theorem handlePut_of_no_step (T : Tables) (va va' : VolArith) (st : Store) (s f v : String)
    (h : (f = "VOL" ∨ f = "ZONEBVOL") → relStep v = none) : handlePut T va st s f v = handlePut T va' st s f v :=
  (handlePut_eq T va st s f v (putValue_eq_self va st s f v h)).trans
    (handlePut_eq T va' st s f v (putValue_eq_self va' st s f v h)).symm

theorem report_ordinary (T : Tables) (st : Store) (s f v : String) (hf : specialName T f = false) :
    report T st s f v = (st, [valueLine s f v]) := by
  obtain ⟨h1, _, _, h4, _, _, _, _, _, h10⟩ := specialName_false hf
  simp [report, reportTarget, reportLines, h1, h4, h10]

theorem handlePut_ordinary (T : Tables) (va : VolArith) (st : Store) (s f v : String) (ho : OrdinaryPut T f v) :
    handlePut T va st s f v =
      if hasKey st s f then (addData st s f v, if getData st s f = v then [] else [valueLine s f v])
      else (st, [(putData st s f v).2.1]) := by
  obtain ⟨hf, hvol, hv⟩ := ho
  obtain ⟨_, _, _, _, h5, h6, _⟩ := specialName_false hf
  simp only [isError, Bool.or_eq_false_iff, beq_eq_false_iff_ne] at hv
  rw [handlePut_eq T va st s f v (putValue_eq_self va st s f v hvol), report_ordinary T _ s f v hf,
    putData_eq, hasKey_eq, getData_eq]
  simp only [h5, h6, Bool.and_false, Bool.false_eq_true, if_false]
  cases lookup st s f with
  | none => simp only; split <;> rfl
  | some old =>
    have : isError "OK" = false := rfl
    simp only [this, bne_iff_ne.2 hv.1, bne_iff_ne.2 hv.2, Bool.and_self, Option.isSome_some, Option.getD_some,
      if_true, Bool.false_eq_true, if_false, Bool.not_eq_true', bne_eq_false_iff_eq]
    split <;> rfl

/-- what a handler may return on `st`: a store with the keys of `st`, and lines that are well formed, or the crash
    marker if `C` holds -/
structure Reply (C : Prop) (st : Store) (r : Store × List String) : Prop where
  keys : ∀ s f, hasKey r.1 s f = hasKey st s f
  lines_ok : ∀ l ∈ r.2, WellFormed l ∨ l = crashMarker ∧ C

theorem Reply.lines {C : Prop} {st : Store} {ls : List String} (h : ∀ l ∈ ls, WellFormed l) : Reply C st (st, ls) :=
  ⟨fun _ _ => rfl, fun l hl => .inl (h l hl)⟩

/-- a coupled `put_data`, reported when it changed the value -/
theorem Reply.put {C : Prop} {st : Store} {acc : Store × List String} (h : Reply C st acc) (z f v : String) :
    Reply C st ((putData acc.1 z f v).1, if (putData acc.1 z f v).2.2 then acc.2 ++ [valueLine z f v] else acc.2) := by
  refine ⟨fun s' f' => (hasKey_putData ..).trans (h.keys s' f'), fun l hl => ?_⟩
  split at hl
  · rcases List.mem_append.1 hl with hl | hl
    · exact h.lines_ok l hl
    · rw [List.mem_singleton.1 hl]; exact .inl (.valueLine ..)
  · exact h.lines_ok l hl

theorem pwrCoupling_reply (T : Tables) (st : Store) (s f v : String) :
    Reply False st (pwrCoupling T st s f v) := by
  unfold pwrCoupling
  split
  · have fold : Reply False st _ := List.foldlRecOn T.zones _ (.lines (ls := []) nofun) fun acc h z _ => h.put z f v
    split
    · exact fold.put _ "PWRB" v
    · exact fold
  split
  · exact (Reply.lines (ls := []) nofun).put "SYS" f _
  · exact .lines nofun

theorem reportLines_wellFormed (T : Tables) (st : Store) (s f v : String) :
    ∀ l ∈ reportLines T st s f v, WellFormed l := by
  intro l hl
  unfold reportLines at hl
  split at hl
  · obtain ⟨g, _, rfl⟩ := List.mem_map.1 hl
    exact .valueLine ..
  · rw [List.mem_singleton.1 hl]; exact .valueLine ..

theorem report_reply (T : Tables) (st : Store) (s f v : String) :
    Reply (T.zones.contains s = true ∧ f = "PLAYBACK") st (report T st s f v) := by
  unfold report
  simp only
  generalize (if (f == "PLAYBACK") = true then "PLAYBACKINFO" else f) = f'
  split
  · exact .lines nofun
  split
  · rename_i h
    unfold reportTarget at h
    split at h
    · rename_i hc
      exact ⟨fun _ _ => rfl, fun l hl => .inr ⟨List.mem_singleton.1 hl, by simpa [and_comm] using hc⟩⟩
    · cases h
  · rename_i s' _
    have hr := reportLines_wellFormed T st s' f' v
    split
    · have ⟨hk, hp⟩ := pwrCoupling_reply T st s' f' v
      exact ⟨hk, fun l hl => (List.mem_append.1 hl).elim (fun h => .inl (hr l h)) fun h => (hp l h).imp_right (·.2.elim)⟩
    · exact .lines hr

theorem handlePut_reply (T : Tables) (va : VolArith) (st : Store) (s f v0 : String) :
    Reply (T.zones.contains s = true ∧ hasKey st s "PLAYBACK" = true) st (handlePut T va st s f v0) := by
  rw [handlePut_eq T va st s f v0 rfl]
  generalize putValue va st s f v0 = v
  have hk := hasKey_putData st s f v
  split
  · refine .lines fun l hl => ?_
    split at hl
    · rw [List.mem_singleton.1 hl]; exact .inl rfl
    · cases hl
  split
  · exact .lines nofun
  split
  · rename_i he
    exact ⟨hk, fun l hl => .inl (.inl (List.mem_singleton.1 hl ▸ he))⟩
  split
  · exact ⟨hk, nofun⟩
  · rename_i he _
    have ⟨h1, h2⟩ := report_reply T (putData st s f v).1 s f v
    refine ⟨fun s' f' => (h1 s' f').trans (hk s' f'), fun l hl => (h2 l hl).imp_right (.imp_right fun ⟨hz, hf⟩ => ⟨hz, ?_⟩)⟩
    -- `put_data` did not answer with an error marker, so the key is there
    rw [isError_putData] at he
    simpa [hf] using he

def NoZonePlayback (T : Tables) (st : Store) : Prop := ∀ z ∈ T.zones, hasKey st z "PLAYBACK" = false

theorem handleCommand_reply (T : Tables) (va : VolArith) (st : Store) (line : String) :
    Reply (¬ NoZonePlayback T st) st (handleCommand T va st line) := by
  unfold handleCommand
  split
  · rename_i c _
    split
    · exact .lines fun l hl => (handleGet_getLine _ _ _ _ l hl).wellFormed
    · have ⟨hk, hl⟩ := handlePut_reply T va st c.subunit c.function c.value
      refine ⟨hk, fun l h => (hl l h).imp_right (.imp_right fun ⟨hz, hp⟩ hn => ?_)⟩
      rw [hn _ (List.contains_iff_mem.1 hz)] at hp
      cases hp
  · exact .lines nofun

end Ynca.Srv
