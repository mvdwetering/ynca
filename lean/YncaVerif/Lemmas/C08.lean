import YncaVerif.Lemmas.L4Basic
/-! The spacing invariant behind C08: write times are spaced, none lies in the future, and the last one is at least one spacing
before the earliest time at which the sender can write next (`nextTx`). -/
namespace Ynca.L4

theorem spaced_mono (d d' : Nat) (h : d ≤ d') (l : List Nat) : Spaced d' l → Spaced d l := by
  induction l with
  | nil => intro _; trivial
  | cons a r ih =>
    cases r with
    | nil => intro _; trivial
    | cons b r =>
      intro hs
      simp only [Spaced] at hs ⊢
      exact ⟨by omega, ih hs.2⟩

def lastOK (d : Nat) (w : List Nat) (b : Nat) : Prop := ∀ t, w.getLast? = some t → t + d ≤ b

theorem lastOK_mono {d : Nat} {w : List Nat} {b b' : Nat} (h : lastOK d w b) (hb : b ≤ b') : lastOK d w b' :=
  fun t ht => Nat.le_trans (h t ht) hb

theorem lastOK_nil (d b : Nat) : lastOK d [] b := by intro t ht; simp at ht

theorem spaced_append (d : Nat) (l : List Nat) (x : Nat) (hs : Spaced d l) (hl : lastOK d l x) :
    Spaced d (l ++ [x]) := by
  induction l with
  | nil => trivial
  | cons a r ih =>
    cases r with
    | nil =>
      simp only [List.cons_append, List.nil_append, Spaced, and_true]
      exact hl a (by simp)
    | cons b r =>
      simp only [Spaced, List.cons_append] at hs ⊢
      refine ⟨hs.1, ih hs.2 ?_⟩
      intro t ht
      exact hl t (by simpa [List.getLast?_cons_cons] using ht)

/-- the earliest time at which the sender may write again -/
def nextTx (P : Params) (s : St) : Nat :=
  match s.spc with
  | .sleeping u => u
  | .unlock => s.now + P.spacing
  | _ => s.now

structure Inv8 (P : Params) (s : St) : Prop where
  spaced : Spaced P.spacing (wireTimes s)
  le_now : ∀ t ∈ wireTimes s, t ≤ s.now
  last : lastOK P.spacing (wireTimes s) (nextTx P s)

theorem Inv8.congr {P : Params} {s s' : St} (hi : Inv8 P s) (hw : s'.wire = s.wire) (hn : s'.now = s.now)
    (hp : s'.spc = s.spc) : Inv8 P s' := by
  have ew : wireTimes s' = wireTimes s := by unfold wireTimes; rw [hw]
  have en : nextTx P s' = nextTx P s := by unfold nextTx; rw [hp, hn]
  exact ⟨ew ▸ hi.spaced, fun t ht => hn ▸ hi.le_now t (ew ▸ ht), ew ▸ en ▸ hi.last⟩

/-- `write` appends the current time, no earlier than `nextTx`; every other rule leaves `nextTx` where it is or moves it forward with
    the clock -/
theorem inv8_step {P : Params} {s s' : St} {l : Label} {o : Option Obs} (hr : Reachable P s) (hi : Inv8 P s)
    (h : Step P s l s' o) : Inv8 P s' := by
  have ⟨h1, h2, h3⟩ := hi
  cases h with
  | tick =>
    refine ⟨h1, fun t ht => Nat.le_trans (h2 t ht) (Nat.le_add_right _ _), lastOK_mono h3 ?_⟩
    simp only [nextTx]; split <;> omega
  | s h =>
    cases h with
    | write hp =>
      rw [nextTx, hp] at h3
      refine ⟨?_, ?_, ?_⟩
      · simp only [wireTimes, List.map_append, List.map_cons, List.map_nil]
        exact spaced_append _ _ _ h1 h3
      · simp only [wireTimes, List.map_append, List.map_cons, List.map_nil, List.mem_append, List.mem_singleton]
        rintro t (ht | rfl)
        · exact h2 t ht
        · exact Nat.le_refl _
      · intro t ht
        simp only [wireTimes, List.map_append, List.map_cons, List.map_nil, List.getLast?_append, List.getLast?_singleton,
          Option.some_or, Option.some.injEq] at ht
        subst ht; exact Nat.le_refl _
    | wake hp hu => rw [nextTx, hp] at h3; exact ⟨h1, h2, lastOK_mono h3 hu⟩
    | get hp | timeout hp | putKA hp | exit hp | flag hp | classify hp | log hp | lock hp | die hp | unlock hp =>
      rw [nextTx, hp] at h3; exact ⟨h1, h2, h3⟩
  | r h =>
    cases h with
    | made0 hp => rw [nextTx, ((earlyInv hr).early (.inr hp)).1] at h3; exact ⟨h1, h2, h3⟩
    | _ => exact hi.congr rfl rfl rfl
  | c _ _ h => cases h <;> exact hi.congr rfl rfl rfl
  | _ => exact hi.congr rfl rfl rfl

theorem inv8 {P : Params} {s : St} (h : Reachable P s) : Inv8 P s :=
  h.induction (Inv8 P) ⟨trivial, nofun, lastOK_nil _ _⟩ fun _ _ _ _ hr => inv8_step hr

end Ynca.L4
