import YncaVerif.Lemmas.Framing
/-! Framing, second part (C02x, and the byte stream of C20x): `splitAll` inverts the wire image `wireG` on terminator-free lines and
tail (`splitAll_wireG`; with `splitAll_spec` in `Framing.lean` the decomposition is unique), and the number of packets is the number
of terminators. -/
namespace Ynca

section
variable {α : Type} [DecidableEq α]

theorem splitFirst_append_term (a b : α) (hab : a ≠ b) (l rest : List α)
    (h : splitFirst a b l = none) : splitFirst a b (l ++ a :: b :: rest) = some (l, rest) := by
  fun_induction splitFirst a b l with
  | case1 => simp [splitFirst]
  | case2 x =>
    have : ¬ (x = a ∧ a = b) := fun h => hab h.2
    simp [splitFirst, this]
  | case3 x y rest' hxy => simp at h
  | case4 x y rest' hxy p' r' heq => simp at h
  | case5 x y rest' hxy heq ih =>
    have := ih heq
    simp only [List.cons_append] at this ⊢
    simp [splitFirst, hxy, this]

theorem splitAll_wireG (a b : α) (hab : a ≠ b) (lines : List (List α)) (tail : List α)
    (hl : ∀ l ∈ lines, splitFirst a b l = none) (ht : splitFirst a b tail = none) :
    splitAll a b (wireG a b lines tail) = (lines, tail) := by
  induction lines with
  | nil => exact splitAll_none a b tail ht
  | cons l ls ih =>
    rw [wireG_cons, splitAll_some a b _ l _ (splitFirst_append_term a b hab l _ (hl l (List.mem_cons_self ..))),
      ih fun x hx => hl x (List.mem_cons_of_mem _ hx)]

def countTerm (a b : α) : List α → Nat
  | [] => 0
  | [_] => 0
  | x :: y :: rest =>
    if x = a ∧ y = b then countTerm a b rest + 1 else countTerm a b (y :: rest)

theorem countTerm_eq (a b : α) (l : List α) :
    countTerm a b l = match splitFirst a b l with
      | none => 0
      | some (_, r) => countTerm a b r + 1 := by
  fun_induction splitFirst a b l with
  | case1 => rfl
  | case2 => rfl
  | case3 x y rest hxy => simp [countTerm, hxy]
  | case4 x y rest hxy p' r' heq ih => simpa [countTerm, hxy, heq] using ih
  | case5 x y rest hxy heq ih => simpa [countTerm, hxy, heq] using ih

theorem splitAll_length (a b : α) (l : List α) :
    (splitAll a b l).1.length = countTerm a b l := by
  fun_induction splitAll a b l with
  | case1 l h => rw [countTerm_eq, h]; rfl
  | case2 l p r h ps rem heq ih => rw [countTerm_eq, h]; dsimp only; rw [← ih, heq]; rfl
end

instance (l : List UInt8) : Decidable (NoCRLF l) :=
  inferInstanceAs (Decidable (splitFirst CR LF l = none))

theorem splitFirst_none_iff_not_infix {α : Type} [DecidableEq α] (a b : α) (l : List α) :
    splitFirst a b l = none ↔ ¬ [a, b] <:+: l := by
  constructor
  · rintro h ⟨s, t, rfl⟩
    induction s with
    | nil => simp [splitFirst] at h
    | cons x s ih =>
      cases hm : s ++ [a, b] ++ t with
      | nil => simp at hm
      | cons y rest =>
        rw [List.cons_append, List.cons_append, hm, splitFirst] at h
        split at h
        · cases h
        · refine ih ?_
          rw [hm]
          split at h
          · cases h
          · assumption
  · intro h
    cases hs : splitFirst a b l with
    | none => rfl
    | some pr => exact absurd ⟨pr.1, pr.2, by rw [(splitFirst_some a b l pr.1 pr.2 hs).1]; simp⟩ h

end Ynca
