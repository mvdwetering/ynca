import YncaVerif.Lemmas.L4Basic
/-! The FIFO bookkeeping behind C01: what is on the wire, in the sender's hands and queued (`held`) against what was submitted;
one lemma says what a step does to the two (`fifo_delta`), the C01 statements are inductions over it.  Ids, and the probe as the
only line without one. -/
namespace Ynca.L4

def held (s : St) : List (Nat × String) := wireCmds s.wire ++ inflight s.spc ++ queueCmds s.queue

theorem queueCmds_cons_inflight (m : Item) (q : List Item) :
    inflight (.got m) ++ queueCmds q = queueCmds (m :: q) := by
  cases m <;> simp [inflight, queueCmds]

theorem wireCmds_append (w : List (Nat × String × Option Nat)) (n : Nat) (t : String) (i : Option Nat) :
    wireCmds (w ++ [(n, t, i)]) = wireCmds w ++ inflight (.writing t i) := by
  cases i <;> simp [wireCmds, inflight]

theorem held_congr {s s' : St} (hw : s'.wire = s.wire) (hp : inflight s'.spc = inflight s.spc)
    (hq : queueCmds s'.queue = queueCmds s.queue) : held s' = held s := by
  unfold held; rw [hw, hp, hq]

theorem held_sublist {s s' : St} (hw : s'.wire = s.wire) (hp : (inflight s'.spc).Sublist (inflight s.spc))
    (hq : (queueCmds s'.queue).Sublist (queueCmds s.queue)) : (held s').Sublist (held s) := by
  unfold held; rw [hw]; exact ((List.Sublist.refl _).append hp).append hq

/-- effect of one step on the FIFO bookkeeping: the sender's rules pass a command along from the queue to the wire, the
    markers are not commands, `submit` adds one at both ends; only `die`, `drain` and `made0` drop anything -/
theorem fifo_delta {P : Params} {s s' : St} {l : Label} {o : Option Obs} (h : Step P s l s' o) :
    (held s' = held s ∧ submittedCmds s' = submittedCmds s ∧ (s.spc = .dead → s'.spc = .dead))
    ∨ (∃ text, held s' = held s ++ [(s.nextId, text)] ∧ submittedCmds s' = submittedCmds s ++ [(s.nextId, text)] ∧
        s'.spc = s.spc)
    ∨ (List.Sublist (held s') (held s) ∧ submittedCmds s' = submittedCmds s ∧
        (lossBegun s'.rpc = true ∨ s'.spc = .dead ∨ s.rpc = .made 0)) := by
  cases h with
  | s h =>
    cases h with
    | get hp hq =>
      refine .inl ⟨?_, rfl, fun h => nomatch hp.symm.trans h⟩
      simp only [held, hp, hq, inflight, ← queueCmds_cons_inflight, List.append_nil, List.append_assoc]
    | write hp =>
      refine .inl ⟨?_, rfl, fun h => nomatch hp.symm.trans h⟩
      simp only [held, hp, inflight, wireCmds_append, List.append_nil]
    | putKA hp =>
      exact .inl ⟨held_congr rfl (congrArg inflight hp).symm (queueCmds_append_marker rfl), rfl,
        fun h => nomatch hp.symm.trans h⟩
    | die => exact .inr (.inr ⟨held_sublist rfl (List.nil_sublist _) (.refl _), rfl, .inr (.inl rfl)⟩)
    | @log _ i hp | @lock _ i hp =>
      exact .inl ⟨held_congr rfl (by cases i <;> exact (congrArg inflight hp).symm) rfl, rfl, fun h => nomatch hp.symm.trans h⟩
    | timeout hp | exit hp | flag hp | classify hp | unlock hp | wake hp =>
      exact .inl ⟨held_congr rfl (congrArg inflight hp).symm rfl, rfl, fun h => nomatch hp.symm.trans h⟩
  | r h =>
    cases h with
    | made0 hp => exact .inr (.inr ⟨held_sublist rfl (List.nil_sublist _) (List.nil_sublist _), rfl, .inr (.inr hp)⟩)
    | made2 | made3 | putExit => exact .inl ⟨held_congr rfl rfl (queueCmds_append_marker rfl), rfl, id⟩
    | drain hp hq =>
      exact .inr (.inr ⟨held_sublist rfl (.refl _) (hq ▸ (List.sublist_cons_self _ _).filterMap _), rfl,
        .inl (congrArg lossBegun hp)⟩)
    | _ => exact .inl ⟨rfl, rfl, id⟩
  | @submit _ text => exact .inr (.inl ⟨text, by simp [held, queueCmds_append_cmd], by simp [submittedCmds], rfl⟩)
  | c _ _ h => cases h <;> exact .inl ⟨rfl, rfl, id⟩
  | _ => exact .inl ⟨rfl, rfl, id⟩

def IdsInv (s : St) : Prop := s.submitted.map (·.2.1) = List.range s.nextId

theorem idsInv_step {P : Params} {s s' : St} {l : Label} {o : Option Obs} (hi : IdsInv s) (h : Step P s l s' o) :
    IdsInv s' := by
  unfold IdsInv at *
  rcases h.submit_cases with ⟨h1, h2, _⟩ | ⟨t, text, h1, h2, _⟩
  · rw [h1, h2]; exact hi
  · rw [h1, h2, List.range_succ, ← hi]; simp

theorem idsInv {P : Params} {s : St} (h : Reachable P s) : IdsInv s :=
  h.induction IdsInv rfl fun _ _ _ _ _ => idsInv_step

theorem submittedCmds_ids (s : St) : (submittedCmds s).map (·.1) = s.submitted.map (·.2.1) := by
  simp [submittedCmds]

/-- ids are below `nextId` -/
theorem submittedCmds_id_lt {P : Params} {s : St} (h : Reachable P s) : ∀ c ∈ submittedCmds s, c.1 < s.nextId := by
  intro c hc
  have := List.mem_map_of_mem (f := (·.1)) hc
  rw [submittedCmds_ids, idsInv h] at this
  exact List.mem_range.mp this

def probePc : SPc → Prop
  | .logging t none => t = probe
  | .lockWait t none => t = probe
  | .writing t none => t = probe
  | _ => True

structure ProbeInv (s : St) : Prop where
  wire : ∀ e ∈ s.wire, e.2.2 = none → e.2.1 = probe
  held : probePc s.spc

/-- an item without a user id is made by `flag` only, with the probe's text, and handed on by `log`, `lock` and `write` -/
theorem probeInv_step {P : Params} {s s' : St} {l : Label} {o : Option Obs} (hi : ProbeInv s) (h : Step P s l s' o) :
    ProbeInv s' := by
  obtain ⟨h1, h2⟩ := hi
  cases h with
  | s h =>
    cases h with
    | flag => exact ⟨h1, rfl⟩
    | @log _ i hp | @lock _ i hp =>
      rw [hp] at h2
      exact ⟨h1, by cases i <;> exact h2⟩
    | write hp =>
      rw [hp] at h2
      refine ⟨fun e he hn => ?_, trivial⟩
      rcases List.mem_append.mp he with he | he
      · exact h1 e he hn
      · cases List.mem_singleton.mp he; cases hn; exact h2
    | _ => exact ⟨h1, trivial⟩
  | r h =>
    cases h with
    | made0 => exact ⟨h1, trivial⟩
    | _ => exact ⟨h1, h2⟩
  | c _ _ h => cases h <;> exact ⟨h1, h2⟩
  | _ => exact ⟨h1, h2⟩

theorem probeInv {P : Params} {s : St} (h : Reachable P s) : ProbeInv s :=
  h.induction ProbeInv ⟨nofun, trivial⟩ fun _ _ _ _ _ => probeInv_step

end Ynca.L4
