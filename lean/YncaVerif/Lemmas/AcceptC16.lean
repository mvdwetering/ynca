import YncaVerif.Lemmas.AcceptProj
/-! C16 on the observed trace: after a `close()` that was begun on a started connection has returned, no write is observed. -/
namespace Ynca.L4

/-- what a scan of the observed events knows about `close()` calls on a connection whose reader thread had been started -/
structure Scan where
  started : Bool := false
  pending : List Tid := []      -- threads inside such a close()
  closed : Bool := false        -- such a close() has returned

def scanStep (sc : Scan) : Ev → Scan
  | .input .startR => { sc with started := true }
  | .input (.callClose t) => if sc.started then { sc with pending := t :: sc.pending } else sc
  | .output (.callRet t) => if sc.pending.contains t then { sc with pending := sc.pending.filter (· != t), closed := true } else sc
  | _ => sc

def scan (pre : List (Nat × Ev)) : Scan := pre.foldl (fun sc e => scanStep sc e.2) {}

theorem scan_snoc (pre : List (Nat × Ev)) (e : Nat × Ev) : scan (pre ++ [e]) = scanStep (scan pre) e.2 := by
  simp [scan, List.foldl_append]

theorem scanStep_still {hidden : List String} {sc : Scan} {e : Ev} (hv : hidden.contains "ret" = false)
    (he : e.still hidden = true) : scanStep sc e = sc := by
  cases e with
  | output o => cases o <;> first | rfl | (rw [Ev.still, obsKind, hv] at he; cases he)
  | input => cases he
  | _ => rfl

structure ScanInv (sc : Scan) (s : St) : Prop where
  started : sc.started = true → s.rpc ≠ .notStarted
  pending : ∀ t ∈ sc.pending, ∃ pc, upcOf s t = .closing pc
  closed : sc.closed = true → s.closeReturned = true

/-- A thread inside close() stays there until the step that shows its `callRet`: other threads' moves leave it alone, it
    cannot start a call, and its own steps are those of close(), of which only `c6`, which shows `callRet`, leaves. -/
theorem closing_step {P : Params} {s s' : St} {l : Label} {o : Option Obs} {t : Tid} {pc : CPc} (hc : upcOf s t = .closing pc)
    (ho : o ≠ some (.callRet t)) (h : Step P s l s' o) : ∃ pc', upcOf s' t = .closing pc' := by
  have move : ∀ {s1 : St} {t0 p}, upcOf s1 t = upcOf s t → (t = t0 → ∃ pc', p = .closing pc') →
      ∃ pc', upcOf (s1.move t0 p) t = .closing pc' :=
    fun h1 hp => upcOf_move_cases (Q := fun u => ∃ pc', u = .closing pc') hp fun _ => ⟨pc, h1 ▸ hc⟩
  have idle : ∀ {t0 : Tid}, mayCall s t0 = true → t ≠ t0 := fun hm e => by
    have := mayCall_idle hm
    rw [← e, hc] at this; cases this
  cases h with
  | call _ hm | close _ hm | closeUnpubR hm | closeUnpub _ hm | closeNoReader _ hm => exact move rfl fun e => absurd e (idle hm)
  | submit _ hp | noConn _ hp | ret _ hp => exact move rfl fun e => by rw [← e, hc] at hp; cases hp
  | c _ _ h =>
    cases h with
    | c6 => exact move rfl fun e => absurd (e ▸ rfl) ho
    | _ => exact move rfl fun _ => ⟨_, rfl⟩
  | s h | r h => cases h <;> exact ⟨pc, hc⟩
  | _ => exact ⟨pc, hc⟩

theorem callRet_of_closing {P : Params} {s s' : St} {l : Label} {t : Tid} {pc : CPc} (hc : upcOf s t = .closing pc)
    (h : Step P s l s' (some (.callRet t))) : s'.closeReturned = true := by
  cases h with
  | s h | r h => cases h
  | ret _ hp => rw [hc] at hp; cases hp
  | c _ _ h => cases h; rfl

theorem callClose_started {P : Params} {s s' : St} {t : Tid} {o : Option Obs} (hr : s.rpc ≠ .notStarted)
    (h : Step P s (.callClose t) s' o) : ∃ pc, upcOf s' t = .closing pc := by
  cases h with
  | closeNoReader _ _ _ hn => exact absurd hn hr
  | r h => cases h
  | _ => exact ⟨_, by rw [upcOf_move, if_pos rfl]⟩

theorem ScanInv.keep {P : Params} {sc : Scan} {s s' : St} {l : Label} {o : Option Obs} (hi : ScanInv sc s)
    (ho : ∀ t ∈ sc.pending, o ≠ some (.callRet t)) (h : Step P s l s' o) : ScanInv sc s' :=
  ⟨fun hs => h.later.started (hi.started hs),
   fun t ht => let ⟨_, hpc⟩ := hi.pending t ht; closing_step hpc (ho t ht) h,
   fun hc => h.later.closeReturned (hi.closed hc)⟩

theorem Expl.scanInv {P : Params} {hidden : List String} {pre : List (Nat × Ev)} {s : St} (h : Expl P hidden pre s)
    (hv : hidden.contains "ret" = false) : ScanInv (scan pre) s := by
  refine h.induction (R := fun pre s => ScanInv (scan pre) s) (by constructor <;> simp [scan]) ?_ ?_ ?_ ?_
  · intro pre s l s' o ih _ hs ho
    refine ih.keep (fun t _ e => ?_) hs
    subst e
    rw [hiddenObs, obsKind, hv] at ho; cases ho
  · intro pre s l s' ih _ hs
    have keep := ih.keep (fun _ _ e => by cases e) hs
    rw [scan_snoc]
    cases l with
    | startR => exact ⟨fun _ => by cases hs with | r h => cases h; nofun, keep.pending, keep.closed⟩
    | callClose t =>
      simp only [scanStep]
      split
      · refine ⟨keep.started, fun t' ht' => ?_, keep.closed⟩
        rcases List.mem_cons.mp ht' with rfl | ht'
        · exact callClose_started (ih.started ‹_›) hs
        · exact keep.pending t' ht'
      · exact keep
    | _ => exact keep
  · intro pre s l s' o ih _ hs _
    rw [scan_snoc]
    by_cases hc : ∃ t, o = .callRet t ∧ (scan pre).pending.contains t = true
    · obtain ⟨t, rfl, hp⟩ := hc
      obtain ⟨pc, hpc⟩ := ih.pending t (by simpa using hp)
      simp only [scanStep, hp, if_true]
      refine ⟨fun h => hs.later.started (ih.started h), fun t' ht' => ?_, fun _ => callRet_of_closing hpc hs⟩
      simp only [List.mem_filter, bne_iff_ne, ne_eq] at ht'
      obtain ⟨pc', hpc'⟩ := ih.pending t' ht'.1
      exact closing_step hpc' (fun e => by cases e; exact ht'.2 rfl) hs
    · have hsame : scanStep (scan pre) (.output o) = scan pre := by
        cases o <;> simp only [scanStep]
        split
        · exact absurd ⟨_, rfl, ‹_›⟩ hc
        · rfl
      rw [hsame]
      exact ih.keep (fun t ht e => hc ⟨t, Option.some.inj e, by simpa using ht⟩) hs
  · intro pre s e ih he
    rw [scan_snoc, scanStep_still hv he]
    exact ih

end Ynca.L4
