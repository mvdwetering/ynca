import YncaVerif.Lemmas.Subunit
/-! Typed values (C10): every converter decodes to a value of its own type, so the cache stays typed. -/
namespace Ynca

/-- the `_missing_` hook returns the member UNKNOWN, so a table with the hook must have that member -/
def enumNamesOk (t : EnumTbl) : Bool :=
  !t.hasMissing || t.members.any (·.1 == "UNKNOWN")

/-- Python's behaviour on exotic numeric syntax is type-correct: it yields a number of the converter's kind -/
def ExoticOk (tbls : List EnumTbl) (ex : Exotic) : Prop :=
  ∀ c s v, ex c s = some v → valMatches tbls c v = true

def CacheTyped (tbls : List EnumTbl) (st : SubSt) : Prop :=
  ∀ f v, (f, v) ∈ st.cache → ∃ fn, findFn st.cls f = some fn ∧ valMatches tbls fn.conv v = true

theorem decodeEnum_typed {tbls : List EnumTbl} (hE : tbls.all enumNamesOk = true) {e : String}
    {t : EnumTbl} (ht : findEnum tbls e = some t) {s : String} {v : Val}
    (h : decodeEnum t s = .ok v) : valMatches tbls (.enum e) v = true := by
  obtain ⟨hname, hmem⟩ := findEnum_some ht
  have hok : enumNamesOk t = true := List.all_eq_true.mp hE t hmem
  have key : ∀ n, t.members.any (·.1 == n) = true → decodeEnum t s = .ok (.member t.name n) →
      valMatches tbls (.enum e) v = true := fun n hn hd => by
    cases hd.symm.trans h
    simpa only [valMatches, ht, hname, beq_self_eq_true, Bool.true_and] using hn
  rcases decodeEnum_cases t s with ⟨n, hm, hd⟩ | ⟨-, hd⟩
  · exact key n (List.any_eq_true.mpr ⟨_, hm, beq_self_eq_true _⟩) hd
  · cases hmiss : t.hasMissing
    · rw [hd, hmiss] at h; cases h
    · rw [hmiss] at hd
      exact key _ (by simpa [enumNamesOk, hmiss] using hok) hd

theorem decodeInt_ok {s : String} {v : Val} (h : decodeInt s = .ok v) : ∃ n, v = .int n := by
  unfold decodeInt at h
  split at h
  · cases h; exact ⟨_, rfl⟩
  · repeat' split at h
    all_goals cases h

theorem decodeFloat_ok {s : String} {v : Val} (h : decodeFloat s = .ok v) : ∃ m f, v = .dec m f := by
  unfold decodeFloat at h
  split at h
  · cases h; exact ⟨_, _, rfl⟩
  · split at h <;> cases h

mutual
theorem decode_typed (tbls : List EnumTbl) (hE : tbls.all enumNamesOk = true) :
    (c : Conv) → (s : String) → (v : Val) → decode tbls c s = .ok v → valMatches tbls c v = true
  | .enum e, s, v, h => by
    unfold decode at h
    split at h
    · exact decodeEnum_typed hE ‹_› h
    · cases h
  | .str _ _, s, v, h => by cases h; rfl
  | .int _, s, v, h => by obtain ⟨n, rfl⟩ := decodeInt_ok h; rfl
  | .intOrNone _, s, v, h => by
    unfold decode at h
    split at h
    · cases h; rfl
    · obtain ⟨n, rfl⟩ := decodeInt_ok h; rfl
  | .float _, s, v, h => by obtain ⟨m, f, rfl⟩ := decodeFloat_ok h; rfl
  | .multi cs, s, v, h => decodeMulti_typed tbls hE cs s v h
  | .opaque _, s, v, h => by cases h
theorem decodeMulti_typed (tbls : List EnumTbl) (hE : tbls.all enumNamesOk = true) :
    (cs : List Conv) → (s : String) → (v : Val) → decode.decodeMulti tbls cs s = .ok v →
      valMatches.go tbls cs v = true
  | [], s, v, h => by cases h
  | c :: cs, s, v, h => by
    unfold decode.decodeMulti at h
    rw [valMatches.go, Bool.or_eq_true]
    split at h
    · exact .inr (decodeMulti_typed tbls hE cs s v h)
    · exact .inl (decode_typed tbls hE c s v h)
end

theorem decodeFull_typed {tbls : List EnumTbl} (hE : tbls.all enumNamesOk = true) {ex : Exotic}
    (hex : ExoticOk tbls ex) {c : Conv} {s : String} {v : Val}
    (h : decodeFull tbls ex c s = some v) : valMatches tbls c v = true := by
  unfold decodeFull at h
  split at h
  · cases h; exact decode_typed tbls hE c s v ‹_›
  · cases h
  · exact hex c s v h

theorem recv_typed {tbls : List EnumTbl} (hE : tbls.all enumNamesOk = true) {ex : Exotic}
    (hex : ExoticOk tbls ex) {st : SubSt} (hst : CacheTyped tbls st) (m : Msg) :
    CacheTyped tbls (recv tbls ex st m) := by
  cases hcl : st.closed
  case true => rwa [recv_of_closed tbls ex hcl]
  intro f v hmem
  rw [recv_cls]
  rw [recv_cache tbls ex hcl] at hmem
  split at hmem
  · rename_i g val hr
    obtain ⟨-, -, -, w, fn, -, hfn, hval⟩ := report_eq_some.mp hr
    rcases mem_cacheSet hmem with heq | hold
    · cases heq; exact ⟨fn, hfn, decodeFull_typed hE hex hval⟩
    · exact hst f v hold
  · exact hst f v hmem

end Ynca
