import YncaVerif.Lemmas.Lock
/-! The library never waits for ever on itself (L4): what a thread that cannot move looks like (`stepR_none`, `stepU_none`; the sender's
`stepS_none` is in `L4Rules`), and that the holder of the transport lock is never such a thread (`holder_moves`). -/
namespace Ynca.L4.NoHang

/-- the reader's program points that occur: `connection_made` has steps 0–3, `connection_lost` steps 0–2, 4 and 5, and the
    blocking read always carries the read time-out -/
def rpcOK : RPc → Bool
  | .made k => k ≤ 3
  | .lost k => k ≤ 5 && k != 3
  | .reading _ none => false
  | _ => true

theorem rpcOK_step {P : Params} {s s' : St} {l : Label} {o : Option Obs} (hi : rpcOK s.rpc = true)
    (h : Step P s l s' o) : rpcOK s'.rpc = true := by
  cases h with
  | r h =>
    cases h with
    | drain => exact hi
    | _ => rfl
  | s h | c _ _ h => cases h <;> exact hi
  | _ => exact hi

theorem rpcOK_inv {P : Params} {s : St} (h : Reachable P s) : rpcOK s.rpc = true :=
  h.induction (fun s => rpcOK s.rpc = true) rfl fun _ _ _ _ _ => rpcOK_step

/-- what a disabled reader looks like (returning from `serial.read` and from callbacks are labels of their own) -/
theorem stepR_none {P : Params} {s : St} (h : stepR P s = none) :
    match s.rpc with
    | .notStarted => True
    | .done => True
    | .reading _ _ => True
    | .inCb _ _ _ => True
    | .inDiscCb => True
    | .deliver _ (_ :: _) => True
    | .lostJoin d => s.now < d
    | .made k => 3 < k
    | .lost k => k = 3 ∨ 5 < k
    | _ => False := by
  cases hpc : s.rpc with
  | made k => rcases k with _ | _ | _ | _ | k <;> simp [stepR, hpc] at h ⊢
  | lost k =>
    rcases k with _ | _ | _ | _ | _ | _ | k <;> simp only [stepR, hpc] at h ⊢ <;> (try split at h) <;> simp at h ⊢
  | deliver l todo => cases todo <;> simp [stepR, hpc] at h ⊢
  | lostJoin d => simp only [stepR, hpc] at h ⊢; split at h <;> simp_all
  | _ => simp only [stepR, hpc] at h ⊢ <;> (repeat' split at h) <;> simp at h

theorem stepU_none {P : Params} {s : St} {t : Tid} (h : stepU P s t = none) :
    match upcOf s t with
    | .idle => True
    | .closing .c1 => s.lock ≠ none
    | .closing (.c3 d) => s.now < d
    | _ => False := by
  unfold stepU at h
  cases hu : upcOf s t with
  | closing pc => cases pc <;> simp only [hu, stepClose] at h ⊢ <;> (try split at h) <;> simp_all
  | _ => simp only [hu] at h ⊢ <;> (try split at h) <;> simp at h

theorem deadline_of_c3 {s : St} {t : Tid} {d : Nat} (h : upcOf s t = .closing (.c3 d)) : d ∈ deadlines s := by
  unfold deadlines
  by_cases ht : t = tidR
  · have : s.rcall = .closing (.c3 d) := by simpa [upcOf, ht] using h
    simp [this]
  · simp only [upcOf, ht, if_false] at h
    have hm := lookup_mem (cs := s.callers) (t := t) (by rw [h]; nofun)
    rw [h] at hm
    simp only [List.mem_append, List.mem_filterMap]
    exact .inr ⟨_, hm, rfl⟩

/-- with no deadline ahead, a thread whose API call cannot go on is idle or waits for the lock -/
theorem stepU_none_late {P : Params} {s : St} {t : Tid} (h : stepU P s t = none) (hdl : ∀ dl ∈ deadlines s, dl ≤ s.now) :
    upcOf s t = .idle ∨ (upcOf s t = .closing .c1 ∧ s.lock ≠ none) := by
  have := stepU_none h
  cases hu : upcOf s t with
  | idle => exact .inl rfl
  | closing pc =>
    rw [hu] at this
    cases pc with
    | c1 => exact .inr ⟨rfl, this⟩
    | c3 d => exact absurd (hdl d (deadline_of_c3 hu)) (Nat.not_le.2 this)
    | _ => exact this.elim
  | _ => rw [hu] at this; exact this.elim

theorem holder_moves {P : Params} {s : St} {t : Tid} (hi : LockInv s) (hl : s.lock = some t) (hS : stepS P s = none)
    (hU : ∀ t, stepU P s t = none) (hdl : ∀ dl ∈ deadlines s, dl ≤ s.now) : False := by
  rcases hi t hl with ⟨_, h⟩ | h
  · have := stepS_none hS
    cases hs : s.spc with
    | writing | unlock => rw [hs] at this; exact this
    | _ => rw [hs] at h; cases h
  · rcases stepU_none_late (hU t) hdl with hu | ⟨hu, _⟩ <;> rw [hu] at h <;> cases h

def Quiescent (s : St) : Prop :=
  (s.spc = .notStarted ∨ s.spc = .done ∨ s.spc = .dead) ∧ (s.rpc = .notStarted ∨ s.rpc = .done) ∧ ∀ t, upcOf s t = .idle

end Ynca.L4.NoHang
