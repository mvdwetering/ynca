import YncaVerif.Model.Subunit
/-! The initial query list (C06): the deduplicating loop of `initQueries` is `List.eraseDups`. -/
namespace Ynca

theorem nodup_eraseDups : ∀ (n : Nat) (l : List String), l.length ≤ n → l.eraseDups.Nodup
  | _, [], _ => by simp
  | 0, _ :: _, h => by simp at h
  | n + 1, a :: as, h => by
    rw [List.eraseDups_cons, List.nodup_cons]
    refine ⟨by simp, nodup_eraseDups n _ ?_⟩
    have := List.length_filter_le (fun b => !b == a) as
    simp only [List.length_cons] at h
    omega

/-- the loop of `initQueries`, from an arbitrary accumulator for the induction -/
theorem initLoop_eq (fns : List Fn) (acc : List String) :
    fns.foldl (fun acc f =>
      if f.noInit then acc else
      let q := f.init.getD f.name
      if acc.contains q then acc else acc ++ [q]) acc
    = acc ++ ((((fns.filter (fun f => !f.noInit)).map (fun f => f.init.getD f.name))).filter
        (fun q => !acc.contains q)).eraseDups := by
  induction fns generalizing acc with
  | nil => simp
  | cons f fns ih =>
    rw [List.foldl_cons, ih]
    cases hn : f.noInit
    case true => simp [hn]
    simp only [hn, Bool.false_eq_true, if_false, List.filter_cons, Bool.not_false, if_true, List.map_cons]
    cases hc : acc.contains (f.init.getD f.name)
    case true => simp
    simp only [Bool.false_eq_true, if_false, Bool.not_false, if_true]
    rw [List.eraseDups_cons, List.filter_filter, List.append_assoc, List.singleton_append]
    congr 3
    refine List.filter_congr fun x _ => ?_
    simp only [List.contains_eq_mem, List.mem_append, List.mem_singleton]
    by_cases h1 : x ∈ acc <;> by_cases h2 : x = f.init.getD f.name <;> simp [h1, h2]

theorem initQueries_eq_eraseDups (c : Cls) :
    initQueries c =
      ((c.fns.filter (fun f => !f.noInit)).map (fun f => f.init.getD f.name)).eraseDups := by
  rw [initQueries, initLoop_eq, List.nil_append]
  exact congrArg _ (List.filter_eq_self.mpr fun _ _ => rfl)

end Ynca
