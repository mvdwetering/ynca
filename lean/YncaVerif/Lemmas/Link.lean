import YncaVerif.Model.Dialogue
/-! What L5 and L5m have in common is the *link*: commands queued, written and consumed in order, a
sequential-responder device, lines emitted and processed in order, and the ghost counters.  The two models differ
only in who waits for what.  The bookkeeping invariant of the link and the barrier it yields — once the
`SYS:VERSION` lines processed are as many as the `SYS:VERSION` queries enqueued, everything enqueued has been
consumed and every answer processed — are proved here, for both. -/
namespace Ynca.L5

theorem lt_of_countP_take_eq {α} {p : α → Bool} {l : List α} {k j : Nat} {x : α}
    (h : (l.take k).countP p = l.countP p) (hx : l[j]? = some x) (hp : p x = true) : j < k := by
  apply Classical.byContradiction
  intro hkj
  have h0 : (l.drop k).countP p = 0 := by
    have := List.countP_append (p := p) (l₁ := l.take k) (l₂ := l.drop k)
    rw [List.take_append_drop] at this
    omega
  have hm : x ∈ l.drop k := by
    rw [List.mem_iff_getElem?]
    exact ⟨j - k, by rw [List.getElem?_drop, ← hx]; congr 1; omega⟩
  have := List.countP_eq_zero.mp h0 x hm
  simp [hp] at this

/-- the fields `D` and `L5m.S` share, under the same names -/
structure Link where
  pending : List String
  written : List String
  consumed : Nat
  emitted : List String
  ansEnd : List Nat
  processed : Nat
  enqueued : Nat
  vq : Nat
  vl : Nat

namespace Link

/-- what one step of either model does to the link -/
inductive Step (answer : Answer) (k : Link) : Link → Prop
  | refl : Step answer k k
  | enqueue (queries : List String) (hq : ∀ q ∈ queries, q ≠ versionQuery) :
    Step answer k { k with pending := k.pending ++ queries ++ [versionQuery],
                           enqueued := k.enqueued + queries.length + 1, vq := k.vq + 1 }
  | write (q : String) (rest : List String) (hp : k.pending = q :: rest) :
    Step answer k { k with pending := rest, written := k.written ++ [q] }
  | consume (h : k.consumed < k.written.length) :
    Step answer k { k with consumed := k.consumed + 1, emitted := k.emitted ++ answer k.written[k.consumed],
                           ansEnd := k.ansEnd ++ [(k.emitted ++ answer k.written[k.consumed]).length] }
  | emit (l : String) (hv : isVersionLine l = false) : Step answer k { k with emitted := k.emitted ++ [l] }
  | process (h : k.processed < k.emitted.length) :
    Step answer k { k with processed := k.processed + 1,
                           vl := if isVersionLine k.emitted[k.processed] then k.vl + 1 else k.vl }

structure Inv (answer : Answer) (k : Link) : Prop where
  enq : k.written.length + k.pending.length = k.enqueued
  cons_le : k.consumed ≤ k.written.length
  ans_len : k.ansEnd.length = k.consumed
  proc_le : k.processed ≤ k.emitted.length
  ans_le : ∀ e ∈ k.ansEnd, e ≤ k.emitted.length
  ans_sorted : k.ansEnd.Pairwise (· ≤ ·)
  vl_eq : k.vl = (k.emitted.take k.processed).countP isVersionLine
  em_cnt : k.emitted.countP isVersionLine = (k.written.take k.consumed).countP (· == versionQuery)
  vq_eq : (k.written ++ k.pending).countP (· == versionQuery) = k.vq
  last_q : k.written ++ k.pending = [] ∨ ∃ pre, k.written ++ k.pending = pre ++ [versionQuery]
  ans_suffix : ∀ (i : Nat) (q : String) (e : Nat), k.written[i]? = some q → k.ansEnd[i]? = some e →
    answer q <:+ k.emitted.take e

theorem Inv.init (answer : Answer) : Inv answer ⟨[], [], 0, [], [], 0, 0, 0, 0⟩ := by
  constructor <;> simp

theorem countP_answer {answer : Answer} (ha : AnswerOk answer) (q : String) :
    (answer q).countP isVersionLine = [q].countP (· == versionQuery) := by
  by_cases hv : q = versionQuery
  · obtain ⟨l, hl, hvl⟩ := ha.2
    simp [hv, hl, hvl]
  · rw [List.countP_eq_zero.mpr fun l hl => by simp [ha.1 q hv l hl]]
    simp [hv]

theorem Inv.step {answer : Answer} (ha : AnswerOk answer) {k k' : Link} (hi : Inv answer k)
    (hs : Step answer k k') : Inv answer k' := by
  have old_ans : ∀ {i e}, k.ansEnd[i]? = some e → i < k.written.length ∧ e ≤ k.emitted.length := fun h =>
    ⟨by have := (List.getElem?_eq_some_iff.mp h).1; have := hi.ans_len; have := hi.cons_le; omega,
      hi.ans_le _ (List.mem_of_getElem? h)⟩
  cases hs with
  | refl => exact hi
  | enqueue queries hq =>
    have h0 : queries.countP (· == versionQuery) = 0 := List.countP_eq_zero.mpr fun q h => by simpa using hq q h
    exact { hi with
      enq := by have := hi.enq; simp only [List.length_append, List.length_singleton]; omega
      vq_eq := by have := hi.vq_eq; simp [List.countP_append, h0] at this ⊢; omega
      last_q := .inr ⟨k.written ++ (k.pending ++ queries), by simp⟩ }
  | write q rest hp =>
    have hall : (k.written ++ [q]) ++ rest = k.written ++ k.pending := by rw [hp]; simp
    exact { hi with
      enq := by have := hi.enq; simp only [hp, List.length_append, List.length_cons, List.length_nil] at this ⊢; omega
      cons_le := by have := hi.cons_le; simp only [List.length_append]; omega
      em_cnt := by rw [List.take_append_of_le_length hi.cons_le]; exact hi.em_cnt
      vq_eq := by rw [hall]; exact hi.vq_eq
      last_q := by rw [hall]; exact hi.last_q
      ans_suffix := fun i q' e hq he => by
        rw [List.getElem?_append_left (old_ans he).1] at hq
        exact hi.ans_suffix i q' e hq he }
  | consume h =>
    exact { hi with
      cons_le := h
      ans_len := by simp only [List.length_append, List.length_singleton, hi.ans_len]
      proc_le := by have := hi.proc_le; simp only [List.length_append]; omega
      ans_le := fun e he => by
        rcases List.mem_append.mp he with he | he
        · have := hi.ans_le e he; simp only [List.length_append]; omega
        · rw [List.mem_singleton.mp he]; exact Nat.le_refl _
      ans_sorted := List.pairwise_append.mpr ⟨hi.ans_sorted, List.pairwise_singleton _ _, fun a ha b hb => by
        have := hi.ans_le a ha; simp only [List.mem_singleton, List.length_append] at hb; omega⟩
      vl_eq := by rw [List.take_append_of_le_length hi.proc_le]; exact hi.vl_eq
      em_cnt := by
        rw [List.countP_append, List.take_add_one, List.countP_append, List.getElem?_eq_getElem h, hi.em_cnt,
          countP_answer ha]; rfl
      ans_suffix := fun i q e hq he => by
        rcases Nat.lt_or_ge i k.ansEnd.length with hlt | hge
        · rw [List.getElem?_append_left hlt] at he
          rw [List.take_append_of_le_length (old_ans he).2]
          exact hi.ans_suffix i q e hq he
        · rw [List.getElem?_append_right hge] at he
          obtain ⟨hlt, rfl⟩ := List.getElem?_eq_some_iff.mp he
          have hi_eq : i = k.consumed := by have := hi.ans_len; simp only [List.length_singleton] at hlt; omega
          rw [hi_eq, List.getElem?_eq_getElem h] at hq
          cases hq
          rw [List.getElem_singleton, List.take_length]
          exact List.suffix_append _ _ }
  | emit l hv =>
    exact { hi with
      proc_le := by have := hi.proc_le; simp only [List.length_append]; omega
      ans_le := fun e he => by have := hi.ans_le e he; simp only [List.length_append]; omega
      vl_eq := by rw [List.take_append_of_le_length hi.proc_le]; exact hi.vl_eq
      em_cnt := by rw [List.countP_append, hi.em_cnt]; simp [hv]
      ans_suffix := fun i q e hq he => by
        rw [List.take_append_of_le_length (old_ans he).2]
        exact hi.ans_suffix i q e hq he }
  | process h =>
    exact { hi with
      proc_le := h
      vl_eq := by
        rw [List.take_add_one, List.countP_append, ← hi.vl_eq, List.getElem?_eq_getElem h]
        simp only [Option.toList_some, List.countP_singleton]
        generalize isVersionLine k.emitted[k.processed] = b
        cases b <;> rfl }

/-- `vl` = version lines processed ≤ emitted = sync queries consumed ≤ enqueued = `vq` -/
theorem Inv.counts {answer : Answer} {k : Link} (hi : Inv answer k) :
    k.vl = (k.emitted.take k.processed).countP isVersionLine ∧
    (k.emitted.take k.processed).countP isVersionLine ≤ k.emitted.countP isVersionLine ∧
    k.emitted.countP isVersionLine = ((k.written ++ k.pending).take k.consumed).countP (· == versionQuery) ∧
    ((k.written ++ k.pending).take k.consumed).countP (· == versionQuery) ≤ k.vq :=
  ⟨hi.vl_eq, (List.take_sublist ..).countP_le, by rw [List.take_append_of_le_length hi.cons_le]; exact hi.em_cnt,
    hi.vq_eq ▸ (List.take_sublist ..).countP_le⟩

theorem Inv.vl_le_vq {answer : Answer} {k : Link} (hi : Inv answer k) : k.vl ≤ k.vq := by
  have := hi.counts; omega

theorem Inv.vans {answer : Answer} (ha : AnswerOk answer) {k : Link} (hi : Inv answer k) (i : Nat)
    (hic : i < k.consumed) (hw : k.written[i]? = some versionQuery) :
    ∃ e l, k.ansEnd[i]? = some e ∧ 1 ≤ e ∧ k.emitted[e - 1]? = some l ∧ isVersionLine l = true := by
  have hlt : i < k.ansEnd.length := by rw [hi.ans_len]; exact hic
  obtain ⟨l, hl, hvl⟩ := ha.2
  obtain ⟨pre, hpre⟩ := hi.ans_suffix i _ _ hw (List.getElem?_eq_getElem hlt)
  rw [hl] at hpre
  have hlen := congrArg List.length hpre
  have hle := hi.ans_le _ (List.getElem_mem hlt)
  rw [List.length_append, List.length_singleton, List.length_take, Nat.min_eq_left hle] at hlen
  refine ⟨k.ansEnd[i], l, List.getElem?_eq_getElem hlt, by omega, ?_, hvl⟩
  have : (k.emitted.take k.ansEnd[i])[k.ansEnd[i] - 1]? = some l := by
    rw [← hpre, ← hlen, Nat.add_sub_cancel, List.getElem?_append_right (Nat.le_refl _)]; simp
  rw [List.getElem?_take] at this
  split at this
  · exact this
  · cases this

/-- **the barrier**: when the processed `SYS:VERSION` lines are as many as the enqueued sync queries, the device has
    consumed every enqueued command and every answer has been processed; the last command is a sync query, and its
    reply, a `SYS:VERSION` line, has been processed -/
theorem Inv.barrier {answer : Answer} (ha : AnswerOk answer) {k : Link} (hi : Inv answer k) (hv : k.vl = k.vq) :
    k.consumed = k.enqueued ∧ k.written.length = k.enqueued ∧ k.pending = [] ∧
    (∀ e ∈ k.ansEnd, e ≤ k.processed) ∧
    (0 < k.enqueued → k.written[k.enqueued - 1]? = some versionQuery ∧
      ∃ e l, k.ansEnd[k.enqueued - 1]? = some e ∧ 1 ≤ e ∧ e ≤ k.processed ∧
        k.emitted[e - 1]? = some l ∧ isVersionLine l = true) := by
  -- equality throughout `counts`
  have hc := hi.counts
  have hcmd : ((k.written ++ k.pending).take k.consumed).countP (· == versionQuery) =
      (k.written ++ k.pending).countP (· == versionQuery) := by rw [hi.vq_eq]; omega
  have hline : (k.emitted.take k.processed).countP isVersionLine = k.emitted.countP isVersionLine := by omega
  have hcl := hi.cons_le
  have henq := hi.enq
  -- the last enqueued command is a sync query, so it is among the consumed ones
  have hend : k.pending = [] ∧ k.consumed = k.written.length ∧
      (0 < k.enqueued → k.written[k.enqueued - 1]? = some versionQuery) := by
    rcases hi.last_q with h0 | ⟨pre, hpre⟩
    · rw [List.append_eq_nil_iff] at h0
      rw [h0.1, h0.2] at henq
      rw [h0.1] at hcl
      exact ⟨h0.2, by rw [h0.1]; exact Nat.le_zero.mp hcl, fun h => by simp at henq; omega⟩
    · have hlen := congrArg List.length hpre
      simp only [List.length_append, List.length_singleton] at hlen
      have := lt_of_countP_take_eq (j := pre.length) (x := versionQuery) hcmd (by rw [hpre]; simp) (by simp)
      have hp : k.pending = [] := List.eq_nil_of_length_eq_zero (by omega)
      refine ⟨hp, by omega, fun _ => ?_⟩
      rw [hp, List.append_nil] at hpre
      rw [← henq, hp, hpre]; simp
  obtain ⟨hp, hce, hlast⟩ := hend
  rw [hp, List.length_nil, Nat.add_zero] at henq
  have hlastq : 0 < k.enqueued → k.written[k.enqueued - 1]? = some versionQuery ∧
      ∃ e l, k.ansEnd[k.enqueued - 1]? = some e ∧ 1 ≤ e ∧ e ≤ k.processed ∧
        k.emitted[e - 1]? = some l ∧ isVersionLine l = true := fun hpos => by
    obtain ⟨e, l, he, h1, hl, hvl⟩ := hi.vans ha (k.enqueued - 1) (by omega) (hlast hpos)
    have := lt_of_countP_take_eq hline hl hvl
    exact ⟨hlast hpos, e, l, he, h1, by omega, hl, hvl⟩
  refine ⟨by omega, henq, hp, fun e he => ?_, hlastq⟩
  -- `ansEnd` is ascending: no answer ends later than the last one
  obtain ⟨i, hlt, rfl⟩ := List.mem_iff_getElem.mp he
  have hal := hi.ans_len
  obtain ⟨_, e', _, he', _, hle', _⟩ := hlastq (by omega)
  obtain ⟨hlt', rfl⟩ := List.getElem?_eq_some_iff.mp he'
  rcases Nat.lt_or_ge i (k.enqueued - 1) with hlt2 | hge
  · exact Nat.le_trans (List.pairwise_iff_getElem.mp hi.ans_sorted i _ hlt hlt' hlt2) hle'
  · have : i = k.enqueued - 1 := by omega
    subst this; exact hle'

theorem Inv.answers_processed {answer : Answer} (ha : AnswerOk answer) {k : Link} (hi : Inv answer k)
    (hv : k.vl = k.vq) (i : Nat) (hlt : i < k.enqueued) :
    ∃ e, k.ansEnd[i]? = some e ∧ e ≤ k.processed ∧
      ∀ q, k.written[i]? = some q → ∀ l ∈ answer q, l ∈ k.emitted.take k.processed := by
  obtain ⟨hc, _, _, hall, _⟩ := hi.barrier ha hv
  have hlt' : i < k.ansEnd.length := by rw [hi.ans_len, hc]; exact hlt
  have hle := hall _ (List.getElem_mem hlt')
  refine ⟨_, List.getElem?_eq_getElem hlt', hle, fun q hq l hl => ?_⟩
  have := (hi.ans_suffix i q _ hq (List.getElem?_eq_getElem hlt')).subset hl
  rw [← Nat.min_eq_left hle, ← List.take_take] at this
  exact List.mem_of_mem_take this

end Link
end Ynca.L5
