import YncaVerif.Lemmas.L4Run
/-! The invariant behind C15: the disconnect callback is invoked only by `connection_lost`, at one program point, once. -/
namespace Ynca.L4

/-- `once` / `called`: the callback has been invoked at most once, and exactly when the reader is past the point of
    `connection_lost` that invokes it, unless a close() cleared it; `cbSet`: only a close() clears it; `down`: from the second
    step of `connection_lost` on the connection is marked down -/
structure DiscInv (s : St) : Prop where
  once : s.discCalls = 0 ∨ (s.discCalls = 1 ∧ (s.rpc = .inDiscCb ∨ s.rpc = .lost 5 ∨ s.rpc = .done))
  cbSet : s.closeStarted = false → s.discCbSet = true
  called : (s.rpc = .inDiscCb ∨ s.rpc = .lost 5 ∨ s.rpc = .done) → s.discCalls = 1 ∨ s.closeStarted = true
  down : lossBegun s.rpc = true → s.rpc ≠ .lost 0 → s.connected = false ∧ s.alive = false

/-- a step from outside `connection_lost` to outside it or to its first point, which writes none of `discCalls`,
    `closeStarted`, `discCbSet`: there the invariant only says that the callback has not been invoked and is set unless cleared -/
theorem DiscInv.before {s s' : St} (hi : DiscInv s) (h0 : lossBegun s.rpc = false)
    (h0' : lossBegun s'.rpc = false ∨ s'.rpc = .lost 0) (hd : s'.discCalls = s.discCalls := by rfl)
    (hc : s'.closeStarted = s.closeStarted := by rfl) (hb : s'.discCbSet = s.discCbSet := by rfl) : DiscInv s' := by
  have h1 : s.discCalls = 0 := hi.once.resolve_right fun h => by rcases h.2 with h | h | h <;> rw [h] at h0 <;> cases h0
  have h2 : lossBegun s'.rpc = true → s'.rpc = .lost 0 := fun h => h0'.resolve_left (by rw [h]; nofun)
  refine ⟨.inl (hd ▸ h1), hc ▸ hb ▸ hi.cbSet, fun h => ?_, fun h h' => absurd (h2 h) h'⟩
  rcases h with h | h | h <;> cases (h2 (by rw [h]; rfl)).symm.trans h

/-- The reader's rules outside `connection_lost` keep the invariant in the form `DiscInv.before`; inside, `discCb` is the one rule that
    counts an invocation, and `noDiscCb` finds the callback cleared, which only a close() does. -/
theorem discInv_step {P : Params} {s s' : St} {l : Label} {o : Option Obs}
    (hi : DiscInv s) (h : Step P s l s' o) : DiscInv s' := by
  obtain ⟨h1, h2, h3, h4⟩ := hi
  have zero : ∀ {r}, s.rpc = r → r ≠ .inDiscCb → r ≠ .lost 5 → r ≠ .done → s.discCalls = 0 := fun hp a b c =>
    h1.resolve_right fun h => h.2.elim (fun e => a (hp ▸ e)) fun h => h.elim (fun e => b (hp ▸ e)) fun e => c (hp ▸ e)
  have down : ∀ {r}, s.rpc = r → lossBegun r = true → r ≠ .lost 0 → s.connected = false ∧ s.alive = false :=
    fun hp a b => h4 (hp ▸ a) (hp ▸ b)
  cases h with
  | r h =>
    cases h with
    | drain => exact ⟨h1, h2, h3, h4⟩
    | lost0 hp => exact ⟨.inl (zero hp nofun nofun nofun), h2, fun h => by simp at h, fun _ _ => ⟨rfl, rfl⟩⟩
    | drained hp | putExit hp | joined hp =>
      exact ⟨.inl (zero hp nofun nofun nofun), h2, fun h => by simp at h, fun _ _ => down hp rfl nofun⟩
    | discCb hp =>
      have z := zero hp nofun nofun nofun
      exact ⟨.inr ⟨congrArg (· + 1) z, .inl rfl⟩, h2, fun _ => .inl (congrArg (· + 1) z), fun _ _ => down hp rfl nofun⟩
    | noDiscCb hp hb =>
      refine ⟨.inl (zero hp nofun nofun nofun), h2, fun _ => .inr ?_, fun _ _ => down hp rfl nofun⟩
      cases hc : s.closeStarted
      · exact nomatch (h2 hc).symm.trans hb
      · rfl
    | exit hp =>
      exact ⟨h1.imp_right fun h => ⟨h.1, .inr (.inr rfl)⟩, h2, fun _ => h3 (.inr (.inl hp)), fun _ _ => down hp rfl nofun⟩
    | discCbRet hp =>
      exact ⟨h1.imp_right fun h => ⟨h.1, .inr (.inl rfl)⟩, h2, fun _ => h3 (.inl hp), fun _ _ => down hp rfl nofun⟩
    | stop hp | readFault hp => exact DiscInv.before ⟨h1, h2, h3, h4⟩ (hp ▸ rfl) (.inr rfl)
    | _ => exact DiscInv.before ⟨h1, h2, h3, h4⟩ (‹s.rpc = _› ▸ rfl) (.inl rfl)
  | c _ _ h =>
    cases h with
    | c0 | c0R => exact ⟨h1, nofun, fun _ => .inr rfl, h4⟩
    | c2 | r2 => exact ⟨h1, h2, h3, fun a b => ⟨(h4 a b).1, rfl⟩⟩
    | _ => exact ⟨h1, h2, h3, h4⟩
  | s h => cases h <;> exact ⟨h1, h2, h3, h4⟩
  | _ => exact ⟨h1, h2, h3, h4⟩

theorem discInv {P : Params} {s : St} (h : Reachable P s) : DiscInv s :=
  h.induction DiscInv (by constructor <;> simp [lossBegun]) fun _ _ _ _ _ => discInv_step

end Ynca.L4
