import YncaVerif.Model.Stepped
/-! Rounding to the nearest step, and decimal digits written and read back (C11). -/
namespace Ynca

theorem roundHalfEven_eq (p : Int) (q : Nat) :
    (roundHalfEven p q = p / q ∧ 2 * (p % q) ≤ q) ∨ (roundHalfEven p q = p / q + 1 ∧ q ≤ 2 * (p % q)) := by
  unfold roundHalfEven
  dsimp only
  by_cases h1 : 2 * (p % (q : Int)) < q
  · exact .inl ⟨if_pos h1, Int.le_of_lt h1⟩
  rw [if_neg h1]
  by_cases h2 : (q : Int) < 2 * (p % q)
  · exact .inr ⟨if_pos h2, Int.le_of_lt h2⟩
  rw [if_neg h2]
  by_cases h3 : p / (q : Int) % 2 = 0
  · exact .inl ⟨if_pos h3, Int.not_lt.mp h2⟩
  · exact .inr ⟨if_neg h3, Int.not_lt.mp h1⟩

theorem roundHalfEven_near (p : Int) (q : Nat) (hq : 0 < q) :
    2 * (p - roundHalfEven p q * q).natAbs ≤ q := by
  have hq' : (0 : Int) < q := by exact_mod_cast hq
  have h0 := Int.emod_nonneg p (Int.ne_of_gt hq')
  have h1 := Int.emod_lt_of_pos p hq'
  -- rounding down leaves the remainder, rounding up leaves it minus `q`
  have edn : p - p / q * q = p % q := by rw [Int.emod_def, Int.mul_comm]
  rcases roundHalfEven_eq p q with ⟨e, h⟩ | ⟨e, h⟩
  · rw [e, edn]; omega
  · rw [e, Int.add_mul, Int.one_mul, ← Int.sub_sub, edn]; omega

theorem roundHalfEven_nearest (p : Int) (q : Nat) (hq : 0 < q) (j : Int) :
    (p - roundHalfEven p q * q).natAbs ≤ (p - j * q).natAbs := by
  have h := roundHalfEven_near p q hq
  generalize roundHalfEven p q = k at *
  by_cases hjk : k = j
  · rw [hjk]; exact Nat.le_refl _
  -- two distinct grid points are at least `q` apart
  have hd : q ≤ ((k - j) * q).natAbs := by
    rw [Int.natAbs_mul, Int.natAbs_natCast]
    exact Nat.le_mul_of_pos_left q (by omega)
  have e : p - j * q = (p - k * q) + (k - j) * q := by rw [Int.sub_mul]; omega
  rw [e]
  generalize p - k * q = x at *
  generalize (k - j) * q = y at *
  omega

theorem dval_foldl (cs : List Char) (a : Nat) :
    cs.foldl (fun a c => a * 10 + (c.toNat - 48)) a = a * 10 ^ cs.length + dval cs := by
  induction cs generalizing a with
  | nil => simp [dval]
  | cons c cs ih =>
    simp only [List.foldl_cons, List.length_cons, dval]
    rw [ih, ih (0 * 10 + (c.toNat - 48))]
    simp [Nat.pow_succ, Nat.add_mul, Nat.mul_assoc, Nat.mul_comm 10, Nat.add_assoc]

theorem dval_append (a b : List Char) : dval (a ++ b) = dval a * 10 ^ b.length + dval b := by
  unfold dval
  rw [List.foldl_append, dval_foldl]
  rfl

theorem dval_toDigits (n : Nat) : dval (Nat.toDigits 10 n) = n := by
  have hdig : ∀ k < 10, dval [k.digitChar] = k := fun k h => by
    simp [dval, Nat.toNat_digitChar_sub_48_of_lt_ten h]
  induction n using Nat.strongRecOn with
  | ind n ih =>
    rw [Nat.toDigits_eq_if (by omega)]
    split
    · exact hdig n ‹_›
    · rw [dval_append, ih (n / 10) (by omega), hdig _ (Nat.mod_lt _ (by omega))]
      simp; omega

theorem allDigits_toDigits (n : Nat) : allDigits (Nat.toDigits 10 n) = true :=
  List.all_eq_true.mpr fun _ hc => Nat.isDigit_of_mem_toDigits (by omega) (by omega) hc

theorem dval_padDigits (w n : Nat) : dval (padDigits w n) = n := by
  rw [padDigits, dval_append, dval_toDigits]
  have : ∀ z, dval (List.replicate z '0') = 0 := fun z => by
    induction z with
    | zero => rfl
    | succ z ih => rw [List.replicate_succ]; unfold dval at *; simpa using ih
  rw [this, Nat.zero_mul, Nat.zero_add]

theorem allDigits_padDigits (w n : Nat) : allDigits (padDigits w n) = true := by
  rw [padDigits, allDigits, List.all_append, Bool.and_eq_true]
  exact ⟨List.all_eq_true.mpr fun c hc => by rw [(List.mem_replicate.mp hc).2]; rfl, allDigits_toDigits n⟩

theorem length_padDigits (w n : Nat) (hw : 0 < w) (hn : n < 10 ^ w) : (padDigits w n).length = w := by
  have := (Nat.length_toDigits_le_iff (b := 10) (n := n) (k := w) (by omega) hw).mpr hn
  simp [padDigits]; omega

theorem span_ne {α : Type} [DecidableEq α] {c : α} {xs : List α} (h : c ∉ xs) (rest : List α) :
    (xs ++ c :: rest).takeWhile (· ≠ c) = xs ∧ (xs ++ c :: rest).dropWhile (· ≠ c) = c :: rest := by
  have hxs : ∀ y ∈ xs, decide (y ≠ c) = true := fun y hy => decide_eq_true fun e => h (e ▸ hy)
  rw [List.takeWhile_append_of_pos hxs, List.dropWhile_append_of_pos hxs]
  simp

/-- the unsigned part of `formatSteps` -/
def unsignedText (m d : Nat) : List Char :=
  Nat.toDigits 10 (m / 10 ^ d) ++ (if d = 0 then [] else '.' :: padDigits d (m % 10 ^ d))

theorem dot_not_mem_of_allDigits {cs : List Char} (h : allDigits cs = true) : '.' ∉ cs :=
  fun hc => absurd (List.all_eq_true.mp h _ hc) (by decide)

theorem parseUnsigned_unsignedText (m d : Nat) : parseUnsigned (unsignedText m d) = some (m, d) := by
  have hip := allDigits_toDigits (m / 10 ^ d)
  have hne : Nat.toDigits 10 (m / 10 ^ d) ≠ [] := Nat.toDigits_ne_nil
  have hpow : 0 < 10 ^ d := Nat.pow_pos (by omega)
  unfold parseUnsigned unsignedText
  by_cases hd : d = 0
  · subst hd
    rw [Nat.pow_zero, Nat.div_one] at *
    have hnd : ∀ c ∈ Nat.toDigits 10 m, decide (c ≠ '.') = true :=
      fun c hc => decide_eq_true fun e => dot_not_mem_of_allDigits hip (e ▸ hc)
    rw [if_pos rfl, List.takeWhile_append_of_pos hnd, List.dropWhile_append_of_pos hnd]
    simp [digitsVal, hne, hip, dval_toDigits]
  · have hd0 : 0 < d := by omega
    have ⟨h1, h2⟩ := span_ne (dot_not_mem_of_allDigits hip) (padDigits d (m % 10 ^ d))
    have hlen := length_padDigits d (m % 10 ^ d) hd0 (Nat.mod_lt _ hpow)
    have hfpne : padDigits d (m % 10 ^ d) ≠ [] := fun h => by rw [h] at hlen; exact absurd hlen.symm (by omega)
    simp only [hd, if_false, h1, h2, hne, hfpne, digitsVal, ne_eq, not_false_eq_true, hip,
      allDigits_padDigits, and_self, if_true, dval_toDigits, dval_padDigits, hlen]
    simp [Nat.div_add_mod' m (10 ^ d)]

theorem unsignedText_eq_cons (m d : Nat) : ∃ c cs, unsignedText m d = c :: cs ∧ c.isDigit = true := by
  have hip := allDigits_toDigits (m / 10 ^ d)
  unfold unsignedText
  cases hbody : Nat.toDigits 10 (m / 10 ^ d) with
  | nil => exact absurd hbody Nat.toDigits_ne_nil
  | cons c cs => exact ⟨c, _, rfl, List.all_eq_true.mp hip c (hbody ▸ List.mem_cons_self ..)⟩

theorem parseDecimal_of_isDigit {c : Char} (hc : c.isDigit = true) (cs : List Char) :
    parseDecimal (c :: cs) = (parseUnsigned (c :: cs)).map (fun p => ((p.1 : Int), p.2)) := by
  unfold parseDecimal
  split
  · rename_i heq; cases heq; exact absurd hc (by decide)
  · rename_i heq; cases heq; exact absurd hc (by decide)
  · rfl

end Ynca
