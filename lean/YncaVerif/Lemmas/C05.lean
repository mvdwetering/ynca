import YncaVerif.Lemmas.Subunit
/-! Writes (C05): the gate in front of a converter, the effect of a write on the object, step texts. -/
namespace Ynca

theorem assignOutcome_eq (tbls : List EnumTbl) {c : Cls} (hc : clsOk c = true) {f : Fn} (hf : f ∈ c.fns)
    (hput : f.put = true) (v : PyVal) :
    assignOutcome tbls c f.attr v =
      match encode tbls f.conv v with
      | .sent t => .put f.name t
      | .raises => .raises
      | .unspecified => .unspecified := by
  rw [assignOutcome, findAttr_of_clsOk hc hf]
  simp only [hput, Bool.not_true, Bool.false_eq_true, if_false]
  rfl

theorem applyWrite_spec (st : SubSt) (r : WriteResult) :
    (applyWrite st r).cache = st.cache ∧ (applyWrite st r).calls = st.calls ∧ (applyWrite st r).cls = st.cls ∧
    (match r with
     | .put fn t => (applyWrite st r).sent = if st.closed then st.sent else st.sent ++ [.put st.cls.id fn t]
     | _ => (applyWrite st r).sent = st.sent) := by
  cases r <;> try exact ⟨rfl, rfl, rfl, rfl⟩
  unfold applyWrite
  cases st.closed <;> exact ⟨rfl, rfl, rfl, rfl⟩

theorem stepText_cases (dir : String) (v : Option PyVal) :
    stepText dir v = dir ∨ stepText dir v = dir ++ " 1 dB" ∨ stepText dir v = dir ++ " 2 dB" ∨
      stepText dir v = dir ++ " 5 dB" := by
  unfold stepText
  split
  · split
    · exact .inr (.inl rfl)
    · split
      · exact .inr (.inr (.inl rfl))
      · split
        · exact .inr (.inr (.inr rfl))
        · exact .inl rfl
  · exact .inl rfl

end Ynca
