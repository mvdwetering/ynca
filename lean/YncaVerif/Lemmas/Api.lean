import YncaVerif.Model.Api
import YncaVerif.Lemmas.Run
/-! L7 (the `YncaApi` program): sets and key lists, the sort, the plan, the callback, `step` as a relation, and the
invariant of `initialize()`. -/
namespace Ynca.L7

theorem addKey_eq_addSet : addKey = addSet := rfl

theorem mem_addSet (xs : List String) (x y : String) : y ∈ addSet xs x ↔ y ∈ xs ∨ y = x := by
  unfold addSet
  split
  · next h => exact ⟨.inl, fun h' => h'.elim id fun e => e ▸ List.contains_iff_mem.mp h⟩
  · exact List.mem_append.trans (or_congr_right List.mem_singleton)

theorem nodup_addSet (xs : List String) (x : String) (h : xs.Nodup) : (addSet xs x).Nodup := by
  unfold addSet
  split
  · exact h
  · next hc =>
    refine List.nodup_append.mpr ⟨h, (List.pairwise_singleton _ x), fun a ha b hb e => hc ?_⟩
    rw [← List.mem_singleton.mp hb, ← e]
    exact List.contains_iff_mem.mpr ha

theorem mem_foldl_addSet (l acc : List String) (x : String) : x ∈ l.foldl addSet acc ↔ x ∈ acc ∨ x ∈ l := by
  induction l generalizing acc with
  | nil => simp
  | cons y ys ih => rw [List.foldl_cons, ih, mem_addSet, List.mem_cons, or_assoc, eq_comm]

theorem nodup_foldl_addSet (l acc : List String) (h : acc.Nodup) : (l.foldl addSet acc).Nodup := by
  induction l generalizing acc with
  | nil => exact h
  | cons y ys ih => exact ih _ (nodup_addSet acc y h)

/-- the key list of a dict filled by assigning the keys `l` in order -/
def keysOf (l : List String) : List String := l.foldl addKey []

theorem keysOf_snoc (l : List String) (x : String) : keysOf (l ++ [x]) = addKey (keysOf l) x := by
  simp [keysOf, List.foldl_append]

theorem mem_keysOf (l : List String) (x : String) : x ∈ keysOf l ↔ x ∈ l := by
  rw [keysOf, addKey_eq_addSet, mem_foldl_addSet]; simp

theorem perm_insertSorted (x : String) (ys : List String) : (insertSorted x ys).Perm (x :: ys) := by
  induction ys with
  | nil => exact .refl _
  | cons y ys ih =>
    unfold insertSorted
    split
    · exact .refl _
    · exact (ih.cons y).trans (.swap x y ys)

theorem perm_sortStr (xs : List String) : (sortStr xs).Perm xs := by
  induction xs with
  | nil => exact .refl _
  | cons x xs ih => exact (perm_insertSorted x _).trans (ih.cons x)

theorem pairwise_insertSorted (x : String) (ys : List String) (h : ys.Pairwise (· ≤ ·)) :
    (insertSorted x ys).Pairwise (· ≤ ·) := by
  induction ys with
  | nil => exact List.pairwise_singleton _ x
  | cons z zs ih =>
    have ⟨hz, hzs⟩ := List.pairwise_cons.mp h
    unfold insertSorted
    split
    · next hle => exact List.pairwise_cons.mpr ⟨fun y hy => (List.mem_cons.mp hy).elim (· ▸ hle)
        fun hy => String.le_trans hle (hz y hy), h⟩
    · next hle => exact List.pairwise_cons.mpr ⟨fun y hy =>
        (List.mem_cons.mp ((perm_insertSorted x zs).mem_iff.mp hy)).elim (· ▸ Std.le_of_not_ge hle) (hz y), ih hzs⟩

theorem pairwise_sortStr (xs : List String) : (sortStr xs).Pairwise (· ≤ ·) := by
  induction xs with
  | nil => exact .nil
  | cons x xs ih => exact pairwise_insertSorted x _ ih

def Sorted : List String → Prop
  | [] => True
  | x :: xs => (∀ y ∈ xs, x ≤ y) ∧ Sorted xs

theorem sorted_iff_pairwise (xs : List String) : Sorted xs ↔ xs.Pairwise (· ≤ ·) := by
  induction xs with
  | nil => simp [Sorted]
  | cons x xs ih => simp [Sorted, ih]

theorem mem_plan (cls av : List String) (x : String) :
    x ∈ plan cls av ↔ x = "SYS" ∨ (x ∈ av ∧ x ∈ cls) := by
  simp [plan, List.mem_filter, (perm_sortStr av).mem_iff]

theorem plan_tail_sorted (cls av : List String) : Sorted (plan cls av).tail :=
  (sorted_iff_pairwise _).mpr ((pairwise_sortStr av).filter _)

theorem plan_tail_nodup (cls av : List String) (h : av.Nodup) : (plan cls av).tail.Nodup :=
  ((perm_sortStr av).nodup_iff.mpr h).sublist List.filter_sublist

/-- at most one object per class, plus `System` -/
theorem plan_length_le (cls av : List String) (h : av.Nodup) : (plan cls av).length ≤ cls.length + 1 := by
  have hsub : (plan cls av).tail ⊆ cls := fun x hx => by simpa using (List.mem_filter.mp hx).2
  exact Nat.succ_le_succ ((plan_tail_nodup cls av h).length_le_of_subset hsub)

def availOf (ms : List Msg) : List String :=
  ms.filterMap (fun m => if m.fn == some "AVAIL" then m.subunit else none)

def isVersionMsg (m : Msg) : Bool := m.subunit == some "SYS" && m.fn == some "VERSION"

theorem onMsg_eq (a : A) (m : Msg) :
    onMsg a m = { a with avail := (availOf [m]).foldl addSet a.avail, event := a.event || isVersionMsg m,
                         heard := a.heard ++ [m] } := by
  simp only [onMsg, availOf, isVersionMsg, List.filterMap_cons, List.filterMap_nil]
  cases m.subunit <;> split <;> split <;>
    simp only [Bool.or_true, Bool.or_false, List.foldl_cons, List.foldl_nil, *]

inductive Step (P : Params) (a : A) : Label → A → Prop
  | start (hp : a.phase = .fresh) :
    Step P a .start { a with phase := .enqueueing, connection := true, registered := true, event := false,
                             avail := [], heard := [] }
  | connectFails (hp : a.phase = .fresh) : Step P a .connectFails { a with phase := .failed }
  | wait (n : Nat) (hp : a.phase = .enqueueing) :
    Step P a (.wait n) { a with phase := .detecting (a.now + P.baseUs + P.perCmdUs * n) }
  | msg (m : Msg) (hr : a.registered = true) : Step P a (.msg m) (onMsg a m)
  | msgDropped (m : Msg) (hr : a.registered = false) : Step P a (.msg m) a
  | wake (dl : Nat) (hp : a.phase = .detecting dl) (he : a.event = true) :
    Step P a .wake { a with phase := .building (plan P.classIds a.avail), registered := false }
  | timeout (dl : Nat) (hp : a.phase = .detecting dl) (hle : dl ≤ a.now) :
    Step P a .timeout { a with phase := .failed, subunits := [], connection := false, registered := false }
  | subunitOk (i : String) (rest : List String) (hp : a.phase = .building (i :: rest)) :
    Step P a .subunitOk { a with subunits := addKey a.subunits i,
                                 phase := if rest.isEmpty then .ready else .building rest }
  | subunitFails (i : String) (rest : List String) (hp : a.phase = .building (i :: rest)) :
    Step P a .subunitFails { a with phase := .failed, subunits := [], connection := false }
  | close (hp : a.phase = .ready ∨ a.phase = .failed) :
    Step P a .close { a with phase := .closed, subunits := [], connection := false }
  | closeAgain (hp : a.phase = .closed ∨ a.phase = .fresh) : Step P a .close a
  | tickDetecting (dl d : Nat) (hp : a.phase = .detecting dl) (he : a.event = false) (hle : a.now + d ≤ dl) :
    Step P a (.tick d) { a with now := a.now + d }
  | tick (d : Nat) (hp : ∀ dl, a.phase ≠ .detecting dl) : Step P a (.tick d) { a with now := a.now + d }

theorem step_sound {P : Params} {a a' : A} {l : Label} (h : step P a l = some a') : Step P a l a' := by
  revert h
  fun_cases step P a l <;> intro h <;> cases h
  · next hp => exact .start (beq_iff_eq.mp hp)
  · next hp => exact .connectFails (beq_iff_eq.mp hp)
  · next hp => exact .wait _ (beq_iff_eq.mp hp)
  · next hr => exact .msg _ hr
  · next hr => exact .msgDropped _ (Bool.eq_false_iff.mpr hr)
  · next hp he => exact .wake _ hp he
  · next hp hle => exact .timeout _ hp hle
  · next hp => exact .subunitOk _ _ hp
  · next hp => exact .subunitFails _ _ hp
  · next hp => exact .close (.inl hp)
  · next hp => exact .close (.inr hp)
  · next hp => exact .closeAgain (.inl hp)
  · next hp => exact .closeAgain (.inr hp)
  · next hp he hle => exact .tickDetecting _ _ hp (Bool.eq_false_iff.mpr he) hle
  · next hp => exact .tick _ hp

theorem run_eq_foldlM (P : Params) (a : A) (ls : List Label) : run P a ls = ls.foldlM (step P) a := by
  induction ls generalizing a with
  | nil => rfl
  | cons l ls ih => rw [run, List.foldlM_cons]; cases step P a l <;> simp [ih]

def PhaseInv (P : Params) (a : A) : Phase → Prop
  | .fresh => a.subunits = [] ∧ a.connection = false ∧ a.registered = false
  | .enqueueing => a.subunits = []
  | .detecting dl => a.subunits = [] ∧ a.now ≤ dl
  | .building todo => a.registered = false ∧ a.event = true ∧ todo ≠ [] ∧
      ∃ done, plan P.classIds a.avail = done ++ todo ∧ a.subunits = keysOf done
  | .ready => a.registered = false ∧ a.event = true ∧ a.subunits = keysOf (plan P.classIds a.avail)
  | .failed => a.subunits = [] ∧ a.connection = false ∧ a.registered = false
  | .closed => a.subunits = [] ∧ a.connection = false

structure Inv (P : Params) (a : A) : Prop where
  avail : a.avail = (availOf a.heard).foldl addSet []
  event : a.event = a.heard.any isVersionMsg
  phase : PhaseInv P a a.phase

theorem Inv.mem_avail {P : Params} {a : A} (h : Inv P a) (x : String) :
    x ∈ a.avail ↔ ∃ m ∈ a.heard, m.fn = some "AVAIL" ∧ m.subunit = some x := by
  rw [h.avail, mem_foldl_addSet, availOf, List.mem_filterMap]
  simp only [List.not_mem_nil, false_or]
  refine exists_congr fun m => and_congr_right fun _ => ?_
  by_cases hf : m.fn = some "AVAIL" <;> simp [hf]

theorem Inv.nodup {P : Params} {a : A} (h : Inv P a) : a.avail.Nodup :=
  h.avail ▸ nodup_foldl_addSet _ _ .nil

theorem Inv.step {P : Params} {a a' : A} {l : Label} (h : Inv P a) (hs : Step P a l a') : Inv P a' := by
  have hph := h.phase
  cases hs with
  | start hp => rw [hp] at hph; exact ⟨rfl, rfl, hph.1⟩
  | connectFails hp => rw [hp] at hph; exact ⟨h.avail, h.event, hph⟩
  | wait n hp => rw [hp] at hph; exact ⟨h.avail, h.event, hph, by dsimp only; omega⟩
  | msg m hr =>
    rw [onMsg_eq]
    refine ⟨?_, ?_, ?_⟩
    · simp only [h.avail, availOf, List.filterMap_append, List.foldl_append]
    · simp only [h.event, List.any_append, List.any_cons, List.any_nil, Bool.or_false]
    · -- the callback is registered only while nothing depends on `avail`
      dsimp only
      generalize a.phase = ph at hph
      cases ph with
      | building | ready => exact absurd (hph.1.symm.trans hr) nofun
      | _ => exact hph
  | msgDropped => exact h
  | wake dl hp he =>
    rw [hp] at hph
    exact ⟨h.avail, h.event, rfl, he, nofun, [], rfl, hph.1⟩
  | timeout => exact ⟨h.avail, h.event, rfl, rfl, rfl⟩
  | subunitOk i rest hp =>
    rw [hp] at hph
    obtain ⟨hr, he, _, done, hpl, hsub⟩ := hph
    refine ⟨h.avail, h.event, ?_⟩
    have hkeys : addKey a.subunits i = keysOf (done ++ [i]) := by rw [keysOf_snoc, hsub]
    cases rest with
    | nil => exact ⟨hr, he, by rw [hpl]; exact hkeys⟩
    | cons j rest => exact ⟨hr, he, nofun, done ++ [i], by rw [hpl, List.append_assoc]; rfl, hkeys⟩
  | subunitFails i rest hp => rw [hp] at hph; exact ⟨h.avail, h.event, rfl, rfl, hph.1⟩
  | close => exact ⟨h.avail, h.event, rfl, rfl⟩
  | closeAgain => exact h
  | tickDetecting dl d hp _ hle => rw [hp] at hph; exact ⟨h.avail, h.event, by rw [hp]; exact ⟨hph.1, hle⟩⟩
  | tick d hnd =>
    refine ⟨h.avail, h.event, ?_⟩
    dsimp only
    generalize a.phase = ph at hph hnd
    cases ph with
    | detecting dl => exact absurd rfl (hnd dl)
    | _ => exact hph

theorem reachable_inv (P : Params) (a : A) (h : Reachable P a) : Inv P a := by
  obtain ⟨ls, hr⟩ := h
  exact foldlM_invariant (Inv P) (fun _ _ _ hi hs => hi.step (step_sound hs)) ls {} a ⟨rfl, rfl, rfl, rfl, rfl⟩
    (run_eq_foldlM P {} ls ▸ hr)

end Ynca.L7
