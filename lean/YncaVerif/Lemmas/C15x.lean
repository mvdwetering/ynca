import YncaVerif.Lemmas.C01
/-! C15x: queued commands are discarded, at the level of histories.

Ids are handed out in increasing order (`IdsInv`), so "submitted by the time of state `s0`" is the same
as "id below `s0.nextId`"; the invariants below are phrased with such a mark `n`. -/
namespace Ynca.L4

/-- the reader is past the drain loop of `connection_lost` (the loop has found the queue empty) -/
def drainDone : RPc → Bool
  | .lost 0 => false
  | .lost 1 => false
  | .lost _ => true
  | .lostJoin _ => true
  | .inDiscCb => true
  | .done => true
  | _ => false

/-- once past the drain, always past the drain; and the only way past it is `drained`, the rule that finds the queue empty -/
theorem drainDone_step {P : Params} {s s' : St} {l : Label} {o : Option Obs} (h : Step P s l s' o) :
    (drainDone s.rpc = true → drainDone s'.rpc = true) ∧
    (drainDone s.rpc = false → drainDone s'.rpc = true → s'.queue = []) := by
  cases h with
  | r h => cases h <;> simp [*, drainDone]
  | s h | c _ _ h => cases h <;> exact ⟨id, fun h h' => nomatch h.symm.trans h'⟩
  | _ => exact ⟨id, fun h h' => nomatch h.symm.trans h'⟩

/-- every queued user command has an id at or above the mark `n`, and so will all future ones -/
def QNew (n : Nat) (s : St) : Prop := n ≤ s.nextId ∧ ∀ c ∈ queueCmds s.queue, n ≤ c.1

theorem qnew_step {P : Params} {n : Nat} {s s' : St} {l : Label} {o : Option Obs}
    (hi : QNew n s) (h : Step P s l s' o) : QNew n s' := by
  obtain ⟨h1, h2⟩ := hi
  refine ⟨Nat.le_trans h1 h.nextId_le, fun c hc => ?_⟩
  rcases h.submit_cases with ⟨_, _, hq⟩ | ⟨t, text, _, _, hq⟩
  · exact h2 c (hq.subset hc)
  · rw [hq, queueCmds_append_cmd] at hc
    rcases List.mem_append.mp hc with hc | hc
    · exact h2 c hc
    · cases List.mem_singleton.mp hc; exact h1

/-- the invariant behind `C15_queued_discarded`: from a state that is not yet past the drain, whenever
    the reader is past the drain every queued command carries an id handed out after that state -/
def DrainInv (n : Nat) (s : St) : Prop := n ≤ s.nextId ∧ (drainDone s.rpc = true → QNew n s)

theorem drainInv_step {P : Params} {n : Nat} {s s' : St} {l : Label} {o : Option Obs}
    (hi : DrainInv n s) (h : Step P s l s' o) : DrainInv n s' := by
  have hn := Nat.le_trans hi.1 h.nextId_le
  refine ⟨hn, fun hd' => ?_⟩
  cases hd : drainDone s.rpc with
  | true => exact qnew_step (hi.2 hd) h
  | false => exact ⟨hn, by rw [(drainDone_step h).2 hd hd']; nofun⟩

theorem drained_queue_new {P : Params} {s0 s : St} {ls : List Label}
    (hpre : drainDone s0.rpc = false) (hrun : run P s0 ls = some s) (hpost : drainDone s.rpc = true) :
    QNew s0.nextId s :=
  (run_induction (DrainInv s0.nextId) (fun _ _ _ _ => drainInv_step) hrun
    ⟨Nat.le_refl _, fun h => nomatch hpre.symm.trans h⟩).2 hpost

theorem submitted_mono (P : Params) (s0 s : St) (ls : List Label) (hrun : run P s0 ls = some s) :
    ∀ c ∈ submittedCmds s, c ∈ submittedCmds s0 ∨ s0.nextId ≤ c.1 := by
  refine (run_induction
    (fun s => s0.nextId ≤ s.nextId ∧ ∀ c ∈ submittedCmds s, c ∈ submittedCmds s0 ∨ s0.nextId ≤ c.1)
    ?_ hrun ⟨Nat.le_refl _, fun c hc => .inl hc⟩).2
  intro s l s' o ⟨h1, h2⟩ h
  refine ⟨Nat.le_trans h1 h.nextId_le, fun c hc => ?_⟩
  unfold submittedCmds at hc h2
  rcases h.submit_cases with ⟨hs, _⟩ | ⟨t, text, hs, _⟩ <;> rw [hs] at hc
  · exact h2 c hc
  · rcases List.mem_append.mp (List.map_append ▸ hc) with hc | hc
    · exact h2 c hc
    · cases List.mem_singleton.mp hc; exact .inr h1

def oldC (n : Nat) (l : List (Nat × String)) : List (Nat × String) := l.filter (fun c => decide (c.1 < n))

theorem oldC_append (n : Nat) (a b : List (Nat × String)) : oldC n (a ++ b) = oldC n a ++ oldC n b := by
  simp [oldC]

theorem oldC_new (n : Nat) (l : List (Nat × String)) (h : ∀ c ∈ l, n ≤ c.1) : oldC n l = [] := by
  simp only [oldC, List.filter_eq_nil_iff, decide_eq_true_eq]
  intro c hc; have := h c hc; omega

theorem oldC_sublist (n : Nat) {a b : List (Nat × String)} (h : a.Sublist b) : (oldC n a).Sublist (oldC n b) :=
  List.Sublist.filter _ h

theorem filter_sublist_filter {α : Type} (p q : α → Bool) (l : List α)
    (h : ∀ a, p a = true → q a = true) : (l.filter p).Sublist (l.filter q) := by
  have : l.filter p = (l.filter q).filter p := by
    rw [List.filter_filter]
    exact List.filter_congr fun a _ => by cases hp : p a <;> simp [h a, hp]
  rw [this]; exact List.filter_sublist

theorem inflight_length (p : SPc) : (inflight p).length ≤ 1 := by
  unfold inflight; split <;> simp

theorem wireCmds_append' (a b : List (Nat × String × Option Nat)) :
    wireCmds (a ++ b) = wireCmds a ++ wireCmds b := by
  simp [wireCmds]

/-- the old commands among what is written, held by the sender or queued only get fewer: whatever is added is new -/
theorem oldC_held_step {P : Params} {n : Nat} {s s' : St} {l : Label} {o : Option Obs}
    (hn : n ≤ s.nextId) (h : Step P s l s' o) : (oldC n (held s')).Sublist (oldC n (held s)) := by
  rcases fifo_delta h with ⟨h1, _⟩ | ⟨text, h1, _⟩ | ⟨h1, _⟩
  · rw [h1]; exact .refl _
  · rw [h1, oldC_append, oldC_new n [_] (by simpa using hn), List.append_nil]; exact .refl _
  · exact oldC_sublist n h1

theorem wire_growth {P : Params} {n : Nat} {s s' : St} {ls : List Label}
    (hq : QNew n s) (hrun : run P s ls = some s') :
    ∃ ext, s'.wire = s.wire ++ ext ∧
      (oldC n (wireCmds ext ++ inflight s'.spc)).Sublist (oldC n (inflight s.spc)) := by
  obtain ⟨ext, hw⟩ := run_wire_mono hrun
  obtain ⟨_, hsub⟩ := run_induction (fun s' => n ≤ s'.nextId ∧ (oldC n (held s')).Sublist (oldC n (held s)))
    (fun _ _ _ _ ⟨h1, h3⟩ h => ⟨Nat.le_trans h1 h.nextId_le, (oldC_held_step h1 h).trans h3⟩) hrun ⟨hq.1, .refl _⟩
  refine ⟨ext, hw, ?_⟩
  simp only [held, hw, wireCmds_append', oldC_append, oldC_new n _ hq.2, List.append_nil, List.append_assoc,
    List.append_sublist_append_left] at hsub
  rw [oldC_append]
  exact (List.append_assoc .. ▸ List.sublist_append_left _ (oldC n (queueCmds s'.queue))).trans hsub

end Ynca.L4
