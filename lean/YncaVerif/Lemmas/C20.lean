import YncaVerif.Lemmas.L4Basic
/-! The communication log behind C20: a ring buffer keeps a suffix; the `Send` entries are the lines on the wire plus at most one
the sender has logged and not yet written (`SendsInv`); the `Received` entries are the lines taken out of the buffer minus at most
one the reader has not yet logged (`RecvInv`). -/
namespace Ynca.L4

theorem ringAdd_drop {α : Type} (n : Nat) (ys : List α) (x : α) :
    ringAdd n (ys.drop (ys.length - n)) x = (ys ++ [x]).drop ((ys ++ [x]).length - n) := by
  unfold ringAdd
  have h : ys.drop (ys.length - n) ++ [x] = (ys ++ [x]).drop (ys.length - n) := by
    rw [List.drop_append_of_le_length (by omega)]
  rw [h, List.drop_drop]
  congr 1
  simp only [List.length_drop, List.length_append, List.length_singleton]
  omega

theorem ring_is_suffix_gen {α : Type} (n : Nat) (xs ys : List α) :
    xs.foldl (ringAdd n) (ys.drop (ys.length - n)) = (ys ++ xs).drop ((ys ++ xs).length - n) := by
  induction xs generalizing ys with
  | nil => simp
  | cons x xs ih =>
    simp only [List.foldl_cons]
    rw [ringAdd_drop, ih (ys ++ [x])]
    simp

/-- the `Send` entries that are logged but not (yet) written, per sender pc -/
def pendOK : SPc → List String → Prop
  | .lockWait t _, e => e = [t]
  | .writing t _, e => e = [t]
  | .dead, e => e.length ≤ 1
  | _, e => e = []

def SendsInv (s : St) : Prop := ∃ extra, logSends s = wireTexts s ++ extra ∧ pendOK s.spc extra

theorem SendsInv.congr {s s' : St} (hi : SendsInv s) (hl : s'.log = s.log) (hw : s'.wire = s.wire) (hp : s'.spc = s.spc) :
    SendsInv s' := by
  unfold SendsInv logSends wireTexts at *
  rw [hl, hw, hp]; exact hi

/-- the invariant reads `log`, `wire` and `spc`: `log` appends the entry that `write` matches with a line on the wire or `die`
    leaves behind; the sender's other rules and `made0` keep `pendOK`; the reader's `line0` logs a `Received` entry -/
theorem sendsInv_step {P : Params} {s s' : St} {l : Label} {o : Option Obs} (hr : Reachable P s)
    (hi : SendsInv s) (h : Step P s l s' o) : SendsInv s' := by
  have ⟨extra, h1, h2⟩ := hi
  cases h with
  | s h =>
    cases h with
    | @log t _ hp =>
      rw [hp] at h2; cases h2
      refine ⟨[t], ?_, rfl⟩
      simp only [logSends, wireTexts, List.append_nil] at h1 ⊢
      rw [← h1]; simp
    | @die t _ hp => rw [hp] at h2; cases h2; exact ⟨[t], h1, Nat.le_refl 1⟩
    | write hp =>
      rw [hp] at h2; cases h2
      refine ⟨[], ?_, rfl⟩
      simp only [logSends, wireTexts, List.append_nil, List.map_append, List.map_cons, List.map_nil] at h1 ⊢
      exact h1
    | get hp | timeout hp | putKA hp | exit hp | flag hp | classify hp | lock hp | unlock hp | wake hp =>
      rw [hp] at h2; exact ⟨extra, h1, h2⟩
  | r h =>
    cases h with
    | made0 hp => rw [((earlyInv hr).early (.inr hp)).1] at h2; exact ⟨extra, h1, h2⟩
    | line0 =>
      refine ⟨extra, ?_, h2⟩
      simp only [logSends, wireTexts] at h1 ⊢
      rw [← h1]; simp
    | _ => exact hi.congr rfl rfl rfl
  | c _ _ h => cases h <;> exact hi.congr rfl rfl rfl
  | _ => exact hi.congr rfl rfl rfl

theorem sendsInv {P : Params} {s : St} (h : Reachable P s) : SendsInv s :=
  h.induction SendsInv ⟨[], rfl, rfl⟩ fun _ _ _ _ hr => sendsInv_step hr

theorem pendOK_length (p : SPc) (e : List String) (h : pendOK p e) : e.length ≤ 1 := by
  cases p <;> simp_all [pendOK]

theorem sends_faithful {P : Params} {s : St} (h : Reachable P s) :
    ∃ extra, logSends s = wireTexts s ++ extra ∧ extra.length ≤ 1 := by
  obtain ⟨extra, h1, h2⟩ := sendsInv h
  exact ⟨extra, h1, pendOK_length _ _ h2⟩

def RecvInv (s : St) : Prop :=
  s.rxLines = logRecvs s ++ (match isLine0 s.rpc with | some l => [l] | none => [])

theorem RecvInv.congr {s s' : St} (hi : RecvInv s) (h1 : s'.rxLines = s.rxLines) (h2 : s'.log = s.log)
    (h3 : isLine0 s'.rpc = isLine0 s.rpc) : RecvInv s' := by
  unfold RecvInv logRecvs at *
  rw [h1, h2, h3]; exact hi

/-- the invariant reads `rxLines`, `log` and whether the reader is at `line0`: `packet` takes a line from the stream and goes to
    `line0`, `line0` logs it and leaves; nothing else enters or leaves `line0`; the sender's `log` appends a `Send` entry -/
theorem recvInv_step {P : Params} {s s' : St} {l : Label} {o : Option Obs}
    (hi : RecvInv s) (h : Step P s l s' o) : RecvInv s' := by
  cases h with
  | r h =>
    cases h with
    | packet hp =>
      unfold RecvInv at *
      simp only [hp, isLine0, List.append_nil] at hi
      simp only [isLine0]
      rw [hi]; rfl
    | line0 hp =>
      unfold RecvInv at *
      simp only [hp, isLine0] at hi
      simp only [isLine0, List.append_nil, logRecvs, List.filterMap_append, List.filterMap_cons, List.filterMap_nil]
      exact hi
    | _ => exact hi.congr rfl rfl (‹s.rpc = _› ▸ rfl)
  | s h =>
    cases h with
    | log =>
      unfold RecvInv logRecvs at *
      simp only [List.filterMap_append, List.filterMap_cons, List.filterMap_nil, List.append_nil]
      exact hi
    | _ => exact hi.congr rfl rfl rfl
  | c _ _ h => cases h <;> exact hi.congr rfl rfl rfl
  | _ => exact hi.congr rfl rfl rfl

theorem recvInv (P : Params) (s : St) (h : Reachable P s) : RecvInv s :=
  h.induction RecvInv rfl fun _ _ _ _ _ => recvInv_step

theorem receives_faithful {P : Params} {s : St} (h : Reachable P s) :
    ∃ extra, s.rxLines = logRecvs s ++ extra ∧ extra.length ≤ 1 := by
  refine ⟨_, recvInv P s h, ?_⟩
  split <;> simp

end Ynca.L4
