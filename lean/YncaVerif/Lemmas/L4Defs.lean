import YncaVerif.Model.Conn
/-! Shared vocabulary for the L4 property statements. -/
namespace Ynca.L4

/-- consecutive elements at least `d` apart -/
def Spaced (d : Nat) : List Nat → Prop
  | [] => True
  | [_] => True
  | a :: b :: r => a + d ≤ b ∧ Spaced d (b :: r)

def wireTimes (s : St) : List Nat := s.wire.map (·.1)
def wireTexts (s : St) : List String := s.wire.map (·.2.1)

/-- user commands on the wire, in write order: (id, text) -/
def wireCmds (w : List (Nat × String × Option Nat)) : List (Nat × String) :=
  w.filterMap (fun e => e.2.2.map (fun i => (i, e.2.1)))

def queueCmds (q : List Item) : List (Nat × String) :=
  q.filterMap (fun it => match it with | .cmd i t => some (i, t) | _ => none)

/-- the user command the sender currently holds, if any -/
def inflight : SPc → List (Nat × String)
  | .got (.cmd i t) => [(i, t)]
  | .logging t (some i) => [(i, t)]
  | .lockWait t (some i) => [(i, t)]
  | .writing t (some i) => [(i, t)]
  | _ => []

def submittedCmds (s : St) : List (Nat × String) := s.submitted.map (fun e => (e.2.1, e.2.2))

/-- the reader has begun `connection_lost` (after a fault, EOF, or a stop request) -/
def lossBegun : RPc → Bool
  | .lost _ => true
  | .lostJoin _ => true
  | .inDiscCb => true
  | .done => true
  | _ => false

/-- time of the last transmission (connection-made time before the first one) -/
def lastTx (s : St) : Nat := match s.wire.getLast? with
  | some e => e.1
  | none => s.madeAt

def logSends (s : St) : List String := s.log.filterMap (fun e => match e with | .send t => some t | _ => none)
def logRecvs (s : St) : List String := s.log.filterMap (fun e => match e with | .received t => some t | _ => none)

/-- decoding of a complete line as done by the reader's `split` step -/
def decodeLine (p : List UInt8) : String :=
  match String.fromUTF8? (ByteArray.mk p.toArray) with
  | some l => l
  | none => "�"

/-- `collections.deque(maxlen = n).append` -/
def ringAdd {α : Type} (n : Nat) (buf : List α) (x : α) : List α := (buf ++ [x]).drop ((buf.length + 1) - n)

end Ynca.L4
