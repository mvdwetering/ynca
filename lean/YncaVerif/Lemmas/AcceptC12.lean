import YncaVerif.Lemmas.AcceptProj
/-! C12 on the observed trace: while nothing went wrong (no link fault, no write fault, no close() so far), every observed event lies
within one keep-alive interval plus one command spacing of the last observed write. -/
namespace Ynca.L4

/-- neither a link fault nor a write fault nor a call of close() -/
def quietEv : Ev → Bool
  | .input .fault => false
  | .input .wfault => false
  | .input (.callClose _) => false
  | _ => true

/-- the observed prefix contains no link fault, no write fault and no close() -/
def quiet (pre : List (Nat × Ev)) : Bool := pre.all (fun e => quietEv e.2)

theorem quiet_snoc {pre : List (Nat × Ev)} {e : Nat × Ev} : quiet (pre ++ [e]) = true ↔ quiet pre = true ∧ quietEv e.2 = true := by
  simp [quiet]

theorem quietEv_thread {l : Label} (h : isThreadLabel l = true) : quietEv (.input l) = true := by
  cases l <;> first | rfl | cases h

/-- what stays true of the model as long as the environment does none of these -/
structure Healthy (s : St) : Prop where
  faultPending : s.faultPending = false
  writeFault : s.writeFault = false
  closeStarted : s.closeStarted = false
  closeUnpub : s.closeUnpub = false
  portOpen : s.portOpen = true
  alive : s.alive = true
  loss : lossBegun s.rpc = false
  notDone : s.spc ≠ .done
  notDead : s.spc ≠ .dead
  noExit : (∀ m ∈ s.queue, m ≠ Item.exit) ∧ s.spc ≠ .got .exit
  noClosing : ∀ t pc, upcOf s t ≠ .closing pc

/-- Every rule is disabled in a `Healthy` state or re-establishes the facts about the one component it moves.  The flags are written
    by the three excluded inputs, by close() (no thread is in it), by `connection_lost` (which begins from a read fault, a stopped
    reader or a closed port) and by `connectFailed` (needs a stopped reader); the sender ends on an `exit` item, which only
    `connection_lost` puts, and dies only on a closed port or a write fault. -/
theorem healthy_step {P : Params} {s s' : St} {l : Label} {o : Option Obs} (hi : Healthy s) (hl : quietEv (.input l) = true)
    (h : Step P s l s' o) : Healthy s' := by
  have hloss := hi.loss
  have move : ∀ {t0 : Tid} {p : UPc}, (∀ pc, p ≠ .closing pc) → ∀ t pc, upcOf (s.move t0 p) t ≠ .closing pc :=
    fun hp t => upcOf_move_cases (Q := fun u => ∀ pc, u ≠ .closing pc) (fun _ => hp) fun _ => hi.noClosing t
  have snoc : ∀ {x : Item}, x ≠ .exit → ∀ m ∈ s.queue ++ [x], m ≠ .exit := fun hx m hm =>
    (List.mem_append.mp hm).elim (hi.noExit.1 m) fun hm => List.mem_singleton.mp hm ▸ hx
  cases h with
  | fault | wfault | close | closeUnpubR | closeUnpub | closeNoReader => cases hl
  | call => exact { hi with noClosing := move nofun }
  | s h =>
    cases h with
    | get _ hq =>
      have hm := hi.noExit.1
      rw [hq] at hm
      exact { hi with notDone := nofun, notDead := nofun,
                      noExit := ⟨fun m h => hm m (.tail _ h), fun e => hm _ (.head _) (SPc.got.inj e)⟩ }
    | putKA => exact { hi with notDone := nofun, notDead := nofun, noExit := ⟨snoc nofun, nofun⟩ }
    | exit hp => exact absurd hp hi.noExit.2
    | die _ hd => rw [hi.portOpen, hi.writeFault] at hd; simp at hd
    | _ => exact { hi with notDone := nofun, notDead := nofun, noExit := ⟨hi.noExit.1, nofun⟩ }
  | r h =>
    cases h with
    | made0 => exact { hi with loss := rfl, notDone := nofun, notDead := nofun, noExit := ⟨nofun, nofun⟩ }
    | made2 | made3 => exact { hi with loss := rfl, noExit := ⟨snoc nofun, hi.noExit.2⟩ }
    | stop _ hd => rw [hi.alive, hi.portOpen] at hd; simp at hd
    | lost0 hp | drain hp | drained hp | putExit hp | joined hp | discCb hp | noDiscCb hp | exit hp | discCbRet hp =>
      rw [hp] at hloss; cases hloss
    | readFault _ _ hf => rw [hi.faultPending] at hf; cases hf
    | _ => exact { hi with loss := rfl }
  | submit => exact { hi with noExit := ⟨snoc nofun, hi.noExit.2⟩, noClosing := move nofun }
  | noConn | ret => exact { hi with noClosing := move nofun }
  | c _ hp => exact absurd hp (hi.noClosing _ _)
  | connectFailed ha | connectFailedClosed ha => rw [hi.alive] at ha; cases ha
  | _ => exact { hi with }

theorem Expl.healthy {P : Params} {hidden : List String} {pre : List (Nat × Ev)} {s : St} (h : Expl P hidden pre s)
    (hq : quiet pre = true) : Healthy s := by
  refine h.induction (R := fun pre s => quiet pre = true → Healthy s) (fun _ => ?_) ?_ ?_ ?_ ?_ hq
  · refine ⟨rfl, rfl, rfl, rfl, rfl, rfl, rfl, nofun, nofun, ⟨nofun, nofun⟩, fun t pc => ?_⟩
    simp [upcOf, lookup]
  · intro pre s l s' o ih hl hs _ hq
    exact healthy_step (ih hq) (quietEv_thread hl) hs
  · intro pre s l s' ih _ hs hq
    exact healthy_step (ih (quiet_snoc.mp hq).1) (quiet_snoc.mp hq).2 hs
  · intro pre s l s' o ih hl hs _ hq
    exact healthy_step (ih (quiet_snoc.mp hq).1) (quietEv_thread hl) hs
  · intro pre s e ih _ hq
    exact ih (quiet_snoc.mp hq).1

theorem lastTx_of_wire {s : St} {w : List (Nat × String)} (hw : w = wireTT s) (hne : w ≠ []) : lastTx s = (w.getLast hne).1 := by
  subst hw
  have h : s.wire ≠ [] := fun hc => hne (by rw [wireTT, hc]; rfl)
  unfold lastTx
  rw [List.getLast?_eq_some_getLast h]
  simp [wireTT, List.getLast_map]

end Ynca.L4
