import YncaVerif.Model.Accept
import YncaVerif.Lemmas.L4Run
/-! Soundness of the trace acceptor (`Model/Accept.lean`): erasing ghost history is a bisimulation (`strip_congr`), the acceptor's
time jump is a `tick` of the model (`tick_jump`), and every state the acceptor holds stands for a model state that explains
(`Expl`) the events consumed so far (`Good`).  Also the ways to reason along an explained trace: `Expl.induction`, and `Expl.last` /
`Expl.at_event` (the state in which an event was observed), which the statements of `Props/Tie.lean` start from. -/
namespace Ynca.L4

def nrm (P : Params) (r : Option (St × Option Obs)) : Option (St × Option Obs) := r.map (fun x => (strip P x.1, x.2))

@[simp] theorem ring_ring {α : Type} (N : Nat) (l : List α) : ring N (ring N l) = ring N l := by
  simp only [ring, List.drop_drop, List.length_drop]
  congr 1; omega

@[simp] theorem ring_snoc {α : Type} (N : Nat) (l : List α) (e : α) : ring N (ring N l ++ [e]) = ring N (l ++ [e]) := by
  simp only [ring, List.drop_append, List.drop_drop, List.length_append, List.length_drop, List.length_singleton]
  congr 2 <;> omega

theorem ring_suffix {α : Type} (N : Nat) (l : List α) : ring N l <:+ l := List.drop_suffix _ _

theorem ring_length {α : Type} (N : Nat) (l : List α) : (ring N l).length ≤ N := by
  unfold ring; simp; omega

instance : LawfulBEq LogEntry where
  eq_of_beq {a b} h := by
    cases a <;> cases b <;> first | cases h | exact congrArg _ (eq_of_beq (α := String) h)
  rfl {a} := by cases a <;> exact beq_self_eq_true (α := String) _

@[simp] theorem Item.erase_cmd (i : Nat) (t : String) : (Item.cmd i t).erase = .cmd 0 t := rfl
@[simp] theorem Item.erase_keepAlive : Item.keepAlive.erase = .keepAlive := rfl
@[simp] theorem Item.erase_exit : Item.exit.erase = .exit := rfl
@[simp] theorem Item.erase_erase (i : Item) : i.erase.erase = i.erase := by cases i <;> rfl
@[simp] theorem Item.erase_comp_erase : Item.erase ∘ Item.erase = Item.erase := funext Item.erase_erase
@[simp] theorem map_erase_erase (q : List Item) : (q.map Item.erase).map Item.erase = q.map Item.erase := by
  simp [Function.comp_def]

@[simp] theorem SPc.erase_notStarted : SPc.notStarted.erase = .notStarted := rfl
@[simp] theorem SPc.erase_waitGet (d : Nat) : (SPc.waitGet d).erase = .waitGet d := rfl
@[simp] theorem SPc.erase_timedOut : SPc.timedOut.erase = .timedOut := rfl
@[simp] theorem SPc.erase_got (m : Item) : (SPc.got m).erase = .got m.erase := rfl
@[simp] theorem SPc.erase_logging (t : String) (i : Option Nat) : (SPc.logging t i).erase = .logging t (i.map (fun _ => 0)) := rfl
@[simp] theorem SPc.erase_lockWait (t : String) (i : Option Nat) : (SPc.lockWait t i).erase = .lockWait t (i.map (fun _ => 0)) := rfl
@[simp] theorem SPc.erase_writing (t : String) (i : Option Nat) : (SPc.writing t i).erase = .writing t (i.map (fun _ => 0)) := rfl
@[simp] theorem SPc.erase_unlock : SPc.unlock.erase = .unlock := rfl
@[simp] theorem SPc.erase_sleeping (u : Nat) : (SPc.sleeping u).erase = .sleeping u := rfl
@[simp] theorem SPc.erase_done : SPc.done.erase = .done := rfl
@[simp] theorem SPc.erase_dead : SPc.dead.erase = .dead := rfl
@[simp] theorem SPc.erase_erase (p : SPc) : p.erase.erase = p.erase := by
  cases p <;> simp [Option.map_map, Function.comp_def]
@[simp] theorem SPc.erase_eq_done (p : SPc) : p.erase = .done ↔ p = .done := by cases p <;> simp
@[simp] theorem SPc.erase_eq_dead (p : SPc) : p.erase = .dead ↔ p = .dead := by cases p <;> simp

@[simp] theorem strip_idem (P : Params) (s : St) : strip P (strip P s) = strip P s := by
  simp [strip]

@[simp] theorem nrm_some (P : Params) (s : St) (o : Option Obs) : nrm P (some (s, o)) = some (strip P s, o) := rfl
@[simp] theorem nrm_none (P : Params) : nrm P none = none := rfl
@[simp] theorem nrm_ite (P : Params) (c : Prop) [Decidable c] (a b : Option (St × Option Obs)) :
    nrm P (if c then a else b) = if c then nrm P a else nrm P b := apply_ite ..

/-! `strip` is a bisimulation.  The guards and observations of `step` read only fields that `strip` keeps (`queue` and `spc` up to
the erased ids), and what it writes to a kept field is computed from kept fields.  So each proof below first replaces the fields
of `strip P s` by those of `s` (`dsimp +instances`: also inside the `Decidable` instances, so that the two sides branch on the
same `if`s), follows the `match`es of the function, and leaves each branch to `simp`: `nrm_ite` moves `nrm` into the `if`s,
`ring_ring` and `ring_snoc` deal with the log, idempotence of `erase` with the ids. -/

theorem stepS_strip (P : Params) (s : St) : nrm P (stepS P (strip P s)) = nrm P (stepS P s) := by
  unfold stepS
  dsimp +instances only [strip]
  cases s.spc with
  | waitGet dl => cases s.queue <;> simp [strip]
  | got m => cases m <;> simp [strip]
  | logging t i | lockWait t i | writing t i => cases i <;> simp [strip]
  | _ => simp [strip, enqueue]

theorem stepR_strip (P : Params) (s : St) : nrm P (stepR P (strip P s)) = nrm P (stepR P s) := by
  unfold stepR
  dsimp +instances only [strip]
  split
  case h_7 => split <;> (try split) <;> simp [strip]    -- `.split`: a packet or none, valid UTF-8 or not
  case h_13 => cases s.queue <;> simp [strip]          -- `.lost 1`: the drain loop
  all_goals simp [strip, enqueue]

@[simp] theorem upcOf_strip (P : Params) (s : St) (t : Tid) : upcOf (strip P s) t = upcOf s t := rfl
@[simp] theorem mayCall_strip (P : Params) (s : St) (t : Tid) : mayCall (strip P s) t = mayCall s t := rfl

theorem stepClose_strip (P : Params) (s : St) (t : Tid) (pc : CPc) :
    nrm P (stepClose P (strip P s) t pc) = nrm P (stepClose P s t pc) := by
  cases pc <;> dsimp +instances only [stepClose, strip] <;> simp [strip, setUpc_eq_move]

theorem stepU_strip (P : Params) (s : St) (t : Tid) : nrm P (stepU P (strip P s) t) = nrm P (stepU P s t) := by
  unfold stepU
  rw [upcOf_strip]
  split
  · rfl
  · dsimp +instances only [strip]; simp [strip, setUpc_eq_move]
  · simp [strip, setUpc_eq_move]
  · exact stepClose_strip P s t _

theorem isSome_of_nrm_eq {P : Params} {a b : Option (St × Option Obs)} (h : nrm P a = nrm P b) : a.isSome = b.isSome := by
  cases a <;> cases b <;> first | rfl | cases h

theorem canMove_strip (P : Params) (s : St) : canMove P (strip P s) = canMove P s := by
  unfold canMove
  rw [isSome_of_nrm_eq (stepS_strip P s), isSome_of_nrm_eq (stepR_strip P s), isSome_of_nrm_eq (stepU_strip P s tidR)]
  have : (strip P s).callers.any (fun c => (stepU P (strip P s) c.1).isSome) = s.callers.any (fun c => (stepU P s c.1).isSome) :=
    congrArg s.callers.any (funext fun c => isSome_of_nrm_eq (stepU_strip P s c.1))
  rw [this]
  rfl

theorem deadlines_strip (P : Params) (s : St) : deadlines (strip P s) = deadlines s := by
  unfold deadlines
  dsimp only [strip]
  cases s.spc <;> rfl

theorem step_strip (P : Params) (s : St) (l : Label) : nrm P (step P (strip P s) l) = nrm P (step P s l) := by
  cases l with
  | u t => exact stepU_strip P s t
  | s => exact stepS_strip P s
  | r => exact stepR_strip P s
  | tick d =>
    simp only [step, canMove_strip, deadlines_strip]
    dsimp +instances only [strip]
    simp [strip]
  | call | callClose =>
    simp only [step]
    rw [mayCall_strip]
    dsimp +instances only [strip]
    simp [strip, setUpc_eq_move]
  | rGet | rCb | cbRet =>
    dsimp +instances only [step, strip]
    split <;> simp [strip]
  | _ =>
    dsimp +instances only [step, strip]
    simp [strip]

theorem strip_congr {P : Params} {a b b' : St} {l : Label} {o : Option Obs} (h : strip P a = strip P b)
    (hs : step P b l = some (b', o)) : ∃ a', step P a l = some (a', o) ∧ strip P a' = strip P b' := by
  have h1 := step_strip P a l
  rw [h, step_strip, hs] at h1
  match ha : step P a l with
  | none => rw [ha] at h1; cases h1
  | some (a', o') =>
    rw [ha, nrm_some, nrm_some, Option.some.injEq, Prod.mk.injEq] at h1
    exact ⟨a', h1.2 ▸ rfl, h1.1.symm⟩

def hiddenObs (hidden : List String) : Option Obs → Bool
  | none => true
  | some o => hidden.contains (obsKind o)

/-- `Expl P hidden pre s`: there is an execution of the model from the initial state to `s` whose inputs are exactly the
    `input` events of `pre`, whose visible outputs are exactly the (non-hidden) `output` events of `pre`, in this order and
    at these times, with internal steps and passage of time in between, and whose log ring equals every snapshot at the
    time it was taken -/
inductive Expl (P : Params) (hidden : List String) : List (Nat × Ev) → St → Prop
  | init : Expl P hidden [] {}
  | tau {pre s s' l o} : Expl P hidden pre s → isThreadLabel l = true → step P s l = some (s', o) → hiddenObs hidden o = true →
      Expl P hidden pre s'
  | input {pre s s' l o} : Expl P hidden pre s → isThreadLabel l = false → step P s l = some (s', o) →
      Expl P hidden (pre ++ [(s.now, .input l)]) s'
  | output {pre s s' l o} : Expl P hidden pre s → isThreadLabel l = true → step P s l = some (s', some o) →
      hidden.contains (obsKind o) = false → Expl P hidden (pre ++ [(s.now, .output o)]) s'
  | hiddenOutput {pre s o} : Expl P hidden pre s → hidden.contains (obsKind o) = true → Expl P hidden (pre ++ [(s.now, .output o)]) s
  | snapshot {pre s es} : Expl P hidden pre s → (logRing P s == es) = true → Expl P hidden (pre ++ [(s.now, .snapshot es)]) s
  | stop {pre s} : Expl P hidden pre s → Expl P hidden (pre ++ [(s.now, .stop)]) s

theorem Expl.reachable {P : Params} {hidden : List String} {pre : List (Nat × Ev)} {s : St} (h : Expl P hidden pre s) :
    Reachable P s := by
  induction h with
  | init => exact ⟨[], rfl⟩
  | tau _ _ hs _ ih | input _ _ hs ih | output _ _ hs _ ih => exact ih.step hs
  | hiddenOutput _ _ ih | snapshot _ _ ih | stop _ ih => exact ih

theorem Step.input_silent {P : Params} {s s' : St} {l : Label} {o : Option Obs} (hl : isThreadLabel l = false)
    (h : Step P s l s' o) : o = none := by
  cases h with
  | r h =>
    cases h with
    | startR => rfl
    | _ => cases hl
  | dev | fault | wfault | call | close | closeUnpubR | closeUnpub | closeNoReader | reg | unreg | publish => rfl
  | _ => cases hl

/-- events at which the model stands still: hidden outputs, snapshots, the end of the observation -/
def Ev.still (hidden : List String) : Ev → Bool
  | .input _ => false
  | .output o => hidden.contains (obsKind o)
  | _ => true

/-- Induction along an explained trace, rule by rule: a relation between the events seen so far and the model state that holds
    initially and is kept by a hidden step, by an input (which shows nothing), by a visible output, and by an event at which
    the model stands still, holds of every explained trace. -/
theorem Expl.induction {P : Params} {hidden : List String} {R : List (Nat × Ev) → St → Prop} (init : R [] {})
    (tau : ∀ {pre s l s' o}, R pre s → isThreadLabel l = true → Step P s l s' o → hiddenObs hidden o = true → R pre s')
    (input : ∀ {pre s l s'}, R pre s → isThreadLabel l = false → Step P s l s' none → R (pre ++ [(s.now, .input l)]) s')
    (output : ∀ {pre s l s' o}, R pre s → isThreadLabel l = true → Step P s l s' (some o) →
      hidden.contains (obsKind o) = false → R (pre ++ [(s.now, .output o)]) s')
    (still : ∀ {pre s e}, R pre s → e.still hidden = true → R (pre ++ [(s.now, e)]) s)
    {pre : List (Nat × Ev)} {s : St} (h : Expl P hidden pre s) : R pre s := by
  induction h with
  | init => exact init
  | tau _ hl hs ho ih => exact tau ih hl (step_sound hs) ho
  | input _ hl hs ih =>
    have hs := step_sound hs
    cases hs.input_silent hl
    exact input ih hl hs
  | output _ hl hs ho ih => exact output ih hl (step_sound hs) ho
  | hiddenOutput _ ho ih => exact still ih ho
  | snapshot _ _ ih | stop _ ih => exact still ih rfl

/-- what it takes for event `e` to be observed while the model is in state `s`: a visible output is shown by a step from `s`,
    a snapshot is the log ring of `s` -/
def Ev.shownIn (P : Params) (hidden : List String) (s : St) : Ev → Prop
  | .output o => hidden.contains (obsKind o) = false → ∃ l s1, Step P s l s1 (some o)
  | .snapshot es => logRing P s = es
  | _ => True

/-- The last event of an explained trace was observed at the model's clock in a state that explains what came before. -/
theorem Expl.last {P : Params} {hidden : List String} {pre : List (Nat × Ev)} {tm : Nat} {e : Ev} {s : St}
    (h : Expl P hidden (pre ++ [(tm, e)]) s) :
    ∃ s0, Expl P hidden pre s0 ∧ s0.now = tm ∧ e.shownIn P hidden s0 := by
  have snoc : ∀ {pre0 s0 e0}, pre ++ [(tm, e)] = pre0 ++ [(s0.now, e0)] → Expl P hidden pre0 s0 → e0.shownIn P hidden s0 →
      ∃ s0, Expl P hidden pre s0 ∧ s0.now = tm ∧ e.shownIn P hidden s0 := by
    intro pre0 s0 e0 hev he hsh
    obtain ⟨rfl, h2⟩ := List.append_singleton_inj.mp hev
    cases h2
    exact ⟨s0, he, rfl, hsh⟩
  generalize hev : pre ++ [(tm, e)] = evs at h
  induction h with
  | init => simp at hev
  | tau _ _ _ _ ih => exact ih hev
  | input he | stop he => exact snoc hev he trivial
  | output he _ hs => exact snoc hev he fun _ => ⟨_, _, step_sound hs⟩
  | hiddenOutput he ho => exact snoc hev he fun hv => by rw [ho] at hv; cases hv
  | snapshot he hq => exact snoc hev he (eq_of_beq hq)

theorem Expl.prefix {P : Params} {hidden : List String} {evs : List (Nat × Ev)} {s : St} (h : Expl P hidden evs s) :
    ∀ a b, evs = a ++ b → ∃ s1, Expl P hidden a s1 := by
  intro a b e
  subst e
  induction b generalizing a s with
  | nil => exact ⟨s, by simpa using h⟩
  | cons x b ih =>
    obtain ⟨s1, h1⟩ := ih (a := a ++ [x]) (by simpa using h)
    obtain ⟨s0, h0, _⟩ := h1.last
    exact ⟨s0, h0⟩

theorem Expl.at_event {P : Params} {hidden : List String} {pre rest : List (Nat × Ev)} {tm : Nat} {e : Ev} {s : St}
    (h : Expl P hidden (pre ++ (tm, e) :: rest) s) :
    ∃ s0, Expl P hidden pre s0 ∧ s0.now = tm ∧ e.shownIn P hidden s0 :=
  let ⟨_, h1⟩ := h.prefix (pre ++ [(tm, e)]) rest (by simp)
  h1.last

def Good (P : Params) (hidden : List String) (pre : List (Nat × Ev)) (S : List St) : Prop :=
  ∀ x ∈ S, ∃ s, strip P s = strip P x ∧ Expl P hidden pre s

theorem mem_dedup {l : List St} {x : St} (h : x ∈ dedup l) : x ∈ l := by
  refine List.foldlRecOn (motive := fun acc => ∀ x ∈ acc, x ∈ l) l _ (fun _ h => absurd h List.not_mem_nil) (fun acc ih y hy x hx => ?_) x h
  split at hx
  · exact ih x hx
  · rcases List.mem_append.mp hx with h | h
    · exact ih x h
    · exact List.mem_singleton.mp h ▸ hy

theorem Good.dedup {P hidden pre S} (h : Good P hidden pre S) : Good P hidden pre (dedup S) :=
  fun x hx => h x (mem_dedup hx)

theorem Good.append {P hidden pre S T} (h1 : Good P hidden pre S) (h2 : Good P hidden pre T) : Good P hidden pre (S ++ T) :=
  fun x hx => (List.mem_append.mp hx).elim (h1 x) (h2 x)

theorem isThreadLabel_of_mem (s : St) (l : Label) (h : l ∈ threadLabels s) : isThreadLabel l = true := by
  have : (threadLabels s).all isThreadLabel = true := by
    unfold threadLabels
    split <;> simp [isThreadLabel]
  exact List.all_eq_true.mp this l h

theorem now_of_strip_eq {P : Params} {a b : St} (h : strip P a = strip P b) : a.now = b.now := by
  have := congrArg St.now h; exact this
theorem logRing_of_strip_eq {P : Params} {a b : St} (h : strip P a = strip P b) : logRing P a = logRing P b := by
  have := congrArg St.log h; exact this

theorem lift_step {P : Params} {s x x1 : St} {l : Label} {o : Option Obs} (hs : strip P s = strip P x)
    (hst : step P x l = some (x1, o)) : ∃ s1, step P s l = some (s1, o) ∧ strip P s1 = strip P (strip P x1) := by
  obtain ⟨s1, hs1, hs1'⟩ := strip_congr hs hst
  exact ⟨s1, hs1, by rw [strip_idem, hs1']⟩

theorem good_tauSucc {P hidden pre} {x x' : St} (hx : ∃ s, strip P s = strip P x ∧ Expl P hidden pre s)
    (h : x' ∈ tauSucc P hidden x) : ∃ s, strip P s = strip P x' ∧ Expl P hidden pre s := by
  obtain ⟨s, hs, he⟩ := hx
  simp only [tauSucc, List.mem_filterMap] at h
  obtain ⟨l, hl, h⟩ := h
  have htl := isThreadLabel_of_mem x l hl
  split at h
  · cases h
    obtain ⟨s1, hs1, heq⟩ := lift_step hs ‹_›
    exact ⟨s1, heq, he.tau htl hs1 rfl⟩
  · split at h
    · cases h
      obtain ⟨s1, hs1, heq⟩ := lift_step hs ‹_›
      exact ⟨s1, heq, he.tau htl hs1 ‹_›⟩
    · cases h
  · cases h

theorem Good.closure {P hidden pre} (fuel : Nat) {S} (h : Good P hidden pre S) : Good P hidden pre (closure P hidden fuel S) := by
  induction fuel generalizing S with
  | zero => exact h
  | succ n ih =>
    simp only [Ynca.L4.closure]
    split
    · exact h
    · refine ih (h.append fun x' hx' => ?_).dedup
      obtain ⟨x, hx, hx'⟩ := List.mem_flatMap.mp hx'
      exact good_tauSucc (h x hx) hx'

theorem minDeadlineAfter_spec (s : St) :
    (∀ m, minDeadlineAfter s = some m → s.now < m) ∧ ∀ d ∈ deadlines s, s.now < d → ∃ m, minDeadlineAfter s = some m ∧ m ≤ d := by
  -- induction from the last deadline: the fold as a `foldr` over the reversed list, whose members are the same
  unfold minDeadlineAfter
  rw [List.foldl_eq_foldr_reverse]
  simp only [← List.mem_reverse (as := deadlines s)]
  induction (deadlines s).reverse with
  | nil => exact ⟨nofun, nofun⟩
  | cons d0 ds ih =>
    obtain ⟨h1, h2⟩ := ih
    simp only [List.foldr_cons, List.mem_cons]
    split
    · generalize List.foldr _ _ ds = r at h1 h2
      cases r with
      | none => exact ⟨fun m e => by cases e; assumption, fun d hd hlt => hd.elim (fun e => ⟨_, rfl, Nat.le_of_eq e.symm⟩) fun hd => by simpa using h2 d hd hlt⟩
      | some a =>
        refine ⟨fun m e => ?_, fun d hd hlt => ⟨_, rfl, ?_⟩⟩
        · cases e; have := h1 a rfl; omega
        · rcases hd with rfl | hd
          · exact Nat.min_le_right ..
          · obtain ⟨m, e, hm⟩ := h2 d hd hlt; cases e; omega
    · exact ⟨h1, fun d hd hlt => hd.elim (fun e => absurd (e ▸ hlt) ‹_›) fun hd => h2 d hd hlt⟩

def jumpTarget (x : St) (t : Nat) : Nat := match minDeadlineAfter x with | some d => min d t | none => t

theorem tick_jump (P : Params) (x : St) (t : Nat) (hcm : canMove P x = false) (hlt : x.now < t) :
    step P x (.tick (jumpTarget x t - x.now)) = some ({ x with now := jumpTarget x t }, none) := by
  obtain ⟨h1, h2⟩ := minDeadlineAfter_spec x
  have hnow : x.now < jumpTarget x t := by
    unfold jumpTarget; split
    · have := h1 _ ‹_›; omega
    · exact hlt
  have hdl : ∀ d ∈ deadlines x, x.now + (jumpTarget x t - x.now) ≤ d ∨ d ≤ x.now := by
    intro d hd
    by_cases hdn : x.now < d
    · obtain ⟨m, hm, hmd⟩ := h2 d hd hdn
      have : jumpTarget x t ≤ m := by unfold jumpTarget; rw [hm]; exact Nat.min_le_left ..
      omega
    · omega
  simp only [step, hcm, List.all_eq_true, decide_eq_true_eq]
  rw [if_neg (by simp; omega), if_pos hdl, Nat.add_sub_cancel' (Nat.le_of_lt hnow)]

theorem Good.advanceTo {P hidden pre} (fuel t : Nat) {S} (h : Good P hidden pre S) :
    Good P hidden pre (advanceTo P hidden fuel t S) := by
  induction fuel generalizing S with
  | zero => exact h
  | succ n ih =>
    simp only [Ynca.L4.advanceTo, List.partition_eq_filter_filter]
    have hc := Good.closure (P := P) (hidden := hidden) (pre := pre) 200 h
    have there : Good P hidden pre ((Ynca.L4.closure P hidden 200 S).filter fun s => s.now == t) :=
      fun x hx => hc x (List.mem_filter.mp hx).1
    split
    · exact there
    · refine (there.append (ih fun x' hx' => ?_)).dedup
      obtain ⟨x, hx, hx'⟩ := List.mem_filterMap.mp hx'
      obtain ⟨hxS, hxt⟩ := List.mem_filter.mp hx
      split at hx'
      · cases hx'
      · split at hx'
        · cases hx'
        · cases hx'
          have hlt : x.now < t := by simp at hxt; omega
          obtain ⟨s, hs, he⟩ := hc x hxS
          obtain ⟨s1, hs1, heq⟩ := strip_congr hs (tick_jump P x t (by simpa using ‹¬canMove P x = true›) hlt)
          exact ⟨s1, heq, he.tau rfl hs1 rfl⟩

theorem Good.onEvent {P hidden pre} {S : List St} (t : Nat) (e : Ev) (h : Good P hidden pre S) :
    Good P hidden (pre ++ [(t, e)]) (onEvent P hidden S t e) := by
  have hA := Good.advanceTo (P := P) (hidden := hidden) (pre := pre) 400 t h
  have at_t : ∀ {x}, x ∈ (Ynca.L4.advanceTo P hidden 400 t S).filter (fun s => s.now == t) →
      ∃ s, strip P s = strip P x ∧ Expl P hidden pre s ∧ s.now = t := fun hx =>
    let ⟨s, hs, he⟩ := hA _ (List.mem_filter.mp hx).1
    ⟨s, hs, he, by rw [now_of_strip_eq hs]; simpa using (List.mem_filter.mp hx).2⟩
  unfold Ynca.L4.onEvent
  cases e with
  | input l =>
    intro x' hx'
    dsimp only at hx'
    split at hx'
    · cases hx'
    obtain ⟨x, hx, hm⟩ := List.mem_filterMap.mp (mem_dedup hx')
    obtain ⟨⟨x1, o⟩, hr, rfl⟩ := Option.map_eq_some_iff.mp hm
    obtain ⟨s, hs, he, rfl⟩ := at_t hx
    obtain ⟨s1, hs1, heq⟩ := lift_step hs hr
    exact ⟨s1, heq, he.input (by simpa using ‹¬isThreadLabel l = true›) hs1⟩
  | output o =>
    dsimp only
    split
    · intro x hx
      obtain ⟨s, hs, he, rfl⟩ := at_t hx
      exact ⟨s, hs, he.hiddenOutput ‹_›⟩
    · intro x' hx'
      obtain ⟨x, hx, hm⟩ := List.mem_flatMap.mp (mem_dedup hx')
      obtain ⟨l, hl, hm⟩ := List.mem_filterMap.mp hm
      obtain ⟨s, hs, he, rfl⟩ := at_t hx
      split at hm
      · split at hm
        · cases hm
          cases (beq_iff_eq.mp ‹_› : _ = o)
          obtain ⟨s1, hs1, heq⟩ := lift_step hs ‹_›
          exact ⟨s1, heq, he.output (isThreadLabel_of_mem x l hl) hs1 (by simpa using ‹¬hidden.contains (obsKind o) = true›)⟩
        · cases hm
      · cases hm
  | snapshot es =>
    intro x hx
    obtain ⟨hx1, hx2⟩ := List.mem_filter.mp hx
    obtain ⟨s, hs, he, rfl⟩ := at_t hx1
    exact ⟨s, hs, he.snapshot (logRing_of_strip_eq hs ▸ hx2)⟩
  | stop =>
    intro x hx
    obtain ⟨s, hs, he, rfl⟩ := at_t hx
    exact ⟨s, hs, he.stop⟩

theorem accept_go_sound {P hidden} (evs pre : List (Nat × Ev)) (S : List St) (i mx : Nat)
    (hne : S ≠ []) (h : Good P hidden pre S) (hacc : (accept.go P hidden S i mx evs).accepted = true) :
    ∃ s, Expl P hidden (pre ++ evs) s := by
  induction evs generalizing pre S i mx with
  | nil =>
    cases S with
    | nil => exact absurd rfl hne
    | cons x _ =>
      obtain ⟨s, _, he⟩ := h x (by simp)
      exact ⟨s, by simpa using he⟩
  | cons ev rest ih =>
    obtain ⟨t, e⟩ := ev
    simp only [accept.go] at hacc
    split at hacc
    · simp at hacc
    · rename_i hne'
      have := ih (pre ++ [(t, e)]) (Ynca.L4.onEvent P hidden S t e) (i + 1) _ (by simpa using hne') (h.onEvent t e) hacc
      simpa using this

end Ynca.L4
