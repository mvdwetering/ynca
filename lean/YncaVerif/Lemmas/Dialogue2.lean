import YncaVerif.Model.Dialogue2
import YncaVerif.Lemmas.Link
import YncaVerif.Lemmas.Run
/-! The L5m model (several subunit objects, callback fan-out): `step` as a relation; the link's invariant holds for any
number of objects; the stage invariant `Inv1` and with it the barrier only for ONE object. -/
namespace Ynca.L5m
open Ynca.L5 (versionQuery isVersionLine Answer AnswerOk Link)

theorem run_eq_foldlM (answer : Answer) (s : S) (ls : List Label) :
    run answer s ls = ls.foldlM (step answer) s := by
  induction ls generalizing s with
  | nil => rfl
  | cons l ls ih => rw [run, List.foldlM_cons]; cases step answer s l <;> simp [ih]

inductive Step (answer : Answer) (s : S) : Label → S → Prop
  | begin (i : Nat) (o : Obj) (queries : List String) (ho : s.objs[i]? = some o)
      (hst : o.stage = .idle ∨ o.stage = .ok) (hnw : s.objs.any (fun o' => o'.stage.isWaiting) = false)
      (hq : ∀ q ∈ queries, q ≠ versionQuery) :
    Step answer s (.begin i queries)
      { s with objs := s.objs.set i { event := false, stage := .waiting s.enqueued (queries.length + 1),
                                      first := s.enqueued, count := queries.length + 1 },
               pending := s.pending ++ queries ++ [versionQuery],
               enqueued := s.enqueued + queries.length + 1, vq := s.vq + 1 }
  | write (q : String) (rest : List String) (hp : s.pending = q :: rest) :
    Step answer s .write { s with pending := rest, written := s.written ++ [q] }
  | consume (h : s.consumed < s.written.length) :
    Step answer s .consume
      { s with consumed := s.consumed + 1, emitted := s.emitted ++ answer s.written[s.consumed],
               ansEnd := s.ansEnd ++ [(s.emitted ++ answer s.written[s.consumed]).length] }
  | unsolicited (l : String) (hv : isVersionLine l = false) :
    Step answer s (.unsolicited l) { s with emitted := s.emitted ++ [l] }
  | deliver (h : s.processed < s.emitted.length) (hn : s.deliverIdx + 1 < s.objs.length) :
    Step answer s .deliver
      { s with objs := s.objs.modify s.deliverIdx fun o =>
                 { o with event := o.event || (isVersionLine s.emitted[s.processed] && !o.stage.isOk) },
               deliverIdx := s.deliverIdx + 1 }
  | deliverLast (h : s.processed < s.emitted.length) (hn : ¬ s.deliverIdx + 1 < s.objs.length) :
    Step answer s .deliver
      { s with objs := s.objs.modify s.deliverIdx fun o =>
                 { o with event := o.event || (isVersionLine s.emitted[s.processed] && !o.stage.isOk) },
               deliverIdx := 0, processed := s.processed + 1,
               vl := if isVersionLine s.emitted[s.processed] then s.vl + 1 else s.vl }
  | wake (i : Nat) (o : Obj) (f c : Nat) (ho : s.objs[i]? = some o) (hst : o.stage = .waiting f c)
      (he : o.event = true) :
    Step answer s (.wake i) { s with objs := s.objs.set i { o with stage := .ok } }
  | timeout (i : Nat) (o : Obj) (f c : Nat) (ho : s.objs[i]? = some o) (hst : o.stage = .waiting f c)
      (he : o.event = false) :
    Step answer s (.timeout i) { s with objs := s.objs.set i { o with stage := .failed } }

theorem Stage.eq_waiting_of_isWaiting {st : Stage} (h : st.isWaiting = true) : ∃ f c, st = .waiting f c := by
  cases st <;> first | exact ⟨_, _, rfl⟩ | cases h

theorem Stage.rest_of_isRest {st : Stage} (h : st.isRest = true) : st = .idle ∨ st = .ok := by
  cases st <;> first | exact .inl rfl | exact .inr rfl | cases h

theorem step_sound {answer : Answer} {s s' : S} {l : Label} (h : step answer s l = some s') : Step answer s l s' := by
  revert h
  fun_cases step answer s l <;> intro h <;> cases h
  · next ho hc =>
    simp only [Bool.and_eq_true, List.all_eq_true, bne_iff_ne, Bool.not_eq_true'] at hc
    exact .begin _ _ _ ho (Stage.rest_of_isRest hc.1.1) hc.1.2 hc.2
  · next hp => exact .write _ _ hp
  · next hc _ => exact .consume hc
  · next hv => exact .unsolicited _ (Bool.eq_false_iff.mpr hv)
  · next hc _ _ hn => exact .deliver hc hn
  · next hc _ _ hn => exact .deliverLast hc hn
  · next ho hc =>
    simp only [Bool.and_eq_true] at hc
    obtain ⟨f, c, hst⟩ := Stage.eq_waiting_of_isWaiting hc.1
    exact .wake _ _ f c ho hst hc.2
  · next ho hc =>
    simp only [Bool.and_eq_true, Bool.not_eq_true'] at hc
    obtain ⟨f, c, hst⟩ := Stage.eq_waiting_of_isWaiting hc.1
    exact .timeout _ _ f c ho hst hc.2

theorem reachable_induction (answer : Answer) (n : Nat) (P : S → Prop) (h0 : P (init n))
    (hstep : ∀ s l s', P s → Step answer s l s' → P s') (s : S) (h : Reachable answer n s) : P s := by
  obtain ⟨ls, hr⟩ := h
  exact foldlM_invariant P (fun s l s' hp hs => hstep s l s' hp (step_sound hs)) ls (init n) s h0
    (run_eq_foldlM answer (init n) ls ▸ hr)

def S.link (s : S) : Link :=
  ⟨s.pending, s.written, s.consumed, s.emitted, s.ansEnd, s.processed, s.enqueued, s.vq, s.vl⟩

theorem Step.link {answer : Answer} {s s' : S} {l : Label} (h : Step answer s l s') :
    Link.Step answer s.link s'.link := by
  cases h with
  | begin _ _ queries _ _ _ hq => exact .enqueue queries hq
  | write q rest hp => exact .write q rest hp
  | consume h => exact .consume h
  | unsolicited l hv => exact .emit l hv
  | deliverLast h => exact .process h
  | deliver | wake | timeout => exact .refl

/-- `Link.Inv` of `s.link` without the content of the answers (`vans` for `ans_suffix`), hence without `answer` -/
structure Inv (s : S) : Prop where
  enq : s.written.length + s.pending.length = s.enqueued
  cons_le : s.consumed ≤ s.written.length
  ans_len : s.ansEnd.length = s.consumed
  proc_le : s.processed ≤ s.emitted.length
  ans_le : ∀ e ∈ s.ansEnd, e ≤ s.emitted.length
  ans_sorted : s.ansEnd.Pairwise (· ≤ ·)
  vl_eq : s.vl = (s.emitted.take s.processed).countP isVersionLine
  em_cnt : s.emitted.countP isVersionLine = (s.written.take s.consumed).countP (· == versionQuery)
  vq_eq : (s.written ++ s.pending).countP (· == versionQuery) = s.vq
  last_q : s.written ++ s.pending = [] ∨ ∃ pre, s.written ++ s.pending = pre ++ [versionQuery]
  vans : ∀ i, i < s.consumed → s.written[i]? = some versionQuery →
    ∃ e l, s.ansEnd[i]? = some e ∧ 1 ≤ e ∧ s.emitted[e - 1]? = some l ∧ isVersionLine l = true

theorem reachable_link (answer : Answer) (ha : AnswerOk answer) (n : Nat) (s : S) (h : Reachable answer n s) :
    Link.Inv answer s.link :=
  reachable_induction answer n (fun s => Link.Inv answer s.link) (.init answer)
    (fun _ _ _ hi hs => hi.step ha hs.link) s h

theorem reachable_inv (answer : Answer) (ha : AnswerOk answer) (n : Nat) (s : S) (h : Reachable answer n s) :
    Inv s :=
  have hi := reachable_link answer ha n s h
  ⟨hi.enq, hi.cons_le, hi.ans_len, hi.proc_le, hi.ans_le, hi.ans_sorted, hi.vl_eq, hi.em_cnt, hi.vq_eq, hi.last_q,
    hi.vans ha⟩

structure Inv1 (s : S) (o : Obj) : Prop where
  objs : s.objs = [o]
  didx : s.deliverIdx = 0
  slice : ∀ f c, o.stage = .waiting f c → f = o.first ∧ c = o.count
  enq : o.stage ≠ .idle → o.first + o.count = s.enqueued ∧ 0 < o.count
  bal_rest : o.stage = .idle ∨ o.stage = .ok → s.vl = s.vq
  bal_set : ∀ f c, o.stage = .waiting f c → o.event = true → s.vl = s.vq
  bal_unset : ∀ f c, o.stage = .waiting f c → o.event = false → s.vl + 1 = s.vq

theorem eq_of_singleton_getElem? {α} {a b : α} {i : Nat} (h : [a][i]? = some b) : i = 0 ∧ b = a := by
  cases i with
  | zero => exact ⟨rfl, (Option.some.inj h).symm⟩
  | succ n => simp at h

theorem Inv1.step {answer : Answer} {s s' : S} {l : Label} {o : Obj} (hi : Inv1 s o) (hle : s'.vl ≤ s'.vq)
    (hs : Step answer s l s') : ∃ o', Inv1 s' o' := by
  have hobjs := hi.objs
  cases hs with
  | begin i o1 queries ho hst =>
    rw [hobjs] at ho ⊢
    obtain ⟨rfl, rfl⟩ := eq_of_singleton_getElem? ho
    exact ⟨_, {
      objs := rfl, didx := hi.didx
      slice := fun f c h => by cases h; exact ⟨rfl, rfl⟩
      enq := fun _ => ⟨(Nat.add_assoc ..).symm, Nat.succ_pos _⟩
      bal_rest := fun h => h.elim nofun nofun
      bal_set := nofun
      bal_unset := fun _ _ _ _ => congrArg (· + 1) (hi.bal_rest hst) }⟩
  | write | consume | unsolicited => exact ⟨o, hi.1, hi.2, hi.3, hi.4, hi.5, hi.6, hi.7⟩
  | deliver _ hn => rw [hobjs] at hn; exact absurd hn (by simp)
  | deliverLast h =>
    -- a `SYS:VERSION` line is delivered only while the object waits for it: otherwise `vl` would pass `vq`
    dsimp only at hle
    rw [hobjs, hi.didx]
    generalize isVersionLine s.emitted[s.processed] = b at hle ⊢
    refine ⟨_, rfl, rfl, hi.slice, hi.enq, ?_, ?_, ?_⟩
    all_goals cases b
    · exact hi.bal_rest
    · intro h; have := hi.bal_rest h; simp only [if_true] at hle; omega
    · simp only [Bool.false_and, Bool.or_false]; exact hi.bal_set
    · intro f c h _
      simp only [if_true] at hle
      cases hev : o.event
      · exact hi.bal_unset f c h hev
      · have := hi.bal_set f c h hev; omega
    · simp only [Bool.false_and, Bool.or_false]; exact hi.bal_unset
    · intro f c h he
      have h : o.stage = .waiting f c := h
      simp [h, Stage.isOk] at he
  | wake i o1 f c ho hst he =>
    rw [hobjs] at ho ⊢
    obtain ⟨rfl, rfl⟩ := eq_of_singleton_getElem? ho
    exact ⟨_, {
      objs := rfl, didx := hi.didx, slice := nofun
      enq := fun _ => hi.enq (hst ▸ nofun)
      bal_rest := fun _ => hi.bal_set f c hst he
      bal_set := nofun, bal_unset := nofun }⟩
  | timeout i o1 f c ho hst =>
    rw [hobjs] at ho ⊢
    obtain ⟨rfl, rfl⟩ := eq_of_singleton_getElem? ho
    exact ⟨_, {
      objs := rfl, didx := hi.didx, slice := nofun
      enq := fun _ => hi.enq (hst ▸ nofun)
      bal_rest := fun h => h.elim nofun nofun
      bal_set := nofun, bal_unset := nofun }⟩

theorem reachable_inv1 (answer : Answer) (ha : AnswerOk answer) (s : S) (h : Reachable answer 1 s)
    (o : Obj) (ho : s.objs[0]? = some o) : Link.Inv answer s.link ∧ Inv1 s o := by
  have : Link.Inv answer s.link ∧ ∃ o, Inv1 s o := by
    refine reachable_induction answer 1 (fun s => Link.Inv answer s.link ∧ ∃ o, Inv1 s o)
      ⟨.init answer, {}, by constructor <;> simp [init]⟩ ?_ s h
    intro s l s' ⟨hk, o, hi1⟩ hs
    have hk' := hk.step ha hs.link
    exact ⟨hk', hi1.step hk'.vl_le_vq hs⟩
  obtain ⟨hk, o', hi1⟩ := this
  rw [hi1.objs] at ho
  cases ho
  exact ⟨hk, hi1⟩

theorem objs_length (answer : Answer) (n : Nat) (s : S) (h : Reachable answer n s) : s.objs.length = n := by
  refine reachable_induction answer n (fun s => s.objs.length = n) (by simp [init]) ?_ s h
  intro s l s' hi hs
  cases hs <;> simpa using hi

end Ynca.L5m
