import YncaVerif.Lemmas.Lock
/-! Invariants of the L4 model behind C12: the timed gap invariant (`I4`; a sender waiting for the lock is not blocked while no
close() has begun, `LockInv.free`) and the pipeline of probes (`I5`, `I6`).  (`I2` is in `Lock`, and what would be `I3`, that only the sender takes the lock while no
close() has begun, is `LockInv.free`; that the sender is created once is `EarlyInv` in `L4Basic`.) -/
namespace Ynca.L4

namespace C12L
open NoHang

/-! ## the gap invariant -/

@[simp] theorem lossBegun_notStarted : lossBegun .notStarted = false := rfl
@[simp] theorem lossBegun_made (k : Nat) : lossBegun (.made k) = false := rfl
@[simp] theorem lossBegun_setEvent : lossBegun .setEvent = false := rfl
@[simp] theorem lossBegun_loopTest : lossBegun .loopTest = false := rfl
@[simp] theorem lossBegun_reading (n : Nat) (d : Option Nat) : lossBegun (.reading n d) = false := rfl
@[simp] theorem lossBegun_split : lossBegun .split = false := rfl
@[simp] theorem lossBegun_line0 (l : String) : lossBegun (.line0 l) = false := rfl
@[simp] theorem lossBegun_line1 (l : String) : lossBegun (.line1 l) = false := rfl
@[simp] theorem lossBegun_line2 (l : String) (b : Bool) : lossBegun (.line2 l b) = false := rfl
@[simp] theorem lossBegun_deliver (l : String) (td : List Nat) : lossBegun (.deliver l td) = false := rfl
@[simp] theorem lossBegun_inCb (l : String) (cb : Nat) (td : List Nat) : lossBegun (.inCb l cb td) = false := rfl
@[simp] theorem lossBegun_lost (k : Nat) : lossBegun (.lost k) = true := rfl
@[simp] theorem lossBegun_lostJoin (d : Nat) : lossBegun (.lostJoin d) = true := rfl
@[simp] theorem lossBegun_inDiscCb : lossBegun .inDiscCb = true := rfl
@[simp] theorem lossBegun_done : lossBegun .done = true := rfl

/-- the part of "up" that can only be lost, never regained -/
def Good (s : St) : Prop :=
  lossBegun s.rpc = false ∧ s.closeStarted = false ∧ s.closeUnpub = false ∧ s.writeFault = false ∧ s.portOpen = true

theorem Good.back {s s' : St} (L : Later s s') (hg : Good s') : Good s := by
  have back : ∀ {x y : Bool}, (x = true → y = true) → y = false → x = false := by decide
  have back' : ∀ {x y : Bool}, (x = false → y = false) → y = true → x = true := by decide
  obtain ⟨a, b, c, d, e⟩ := hg
  exact ⟨L.loss_back a, back L.closeStarted b, back L.closeUnpub c, back L.writeFault d, back' L.portOpen e⟩

def lastTxOf (w : List (Nat × String × Option Nat)) (m : Nat) : Nat :=
  match w.getLast? with
  | some e => e.1
  | none => m

theorem lastTx_eq (s : St) : lastTx s = lastTxOf s.wire s.madeAt := rfl
@[simp] theorem lastTxOf_nil (m : Nat) : lastTxOf [] m = m := rfl
@[simp] theorem lastTxOf_concat (w : List (Nat × String × Option Nat)) (e : Nat × String × Option Nat) (m : Nat) :
    lastTxOf (w ++ [e]) m = e.1 := by simp [lastTxOf]

/-- the timed invariant, as a function of the sender's program counter -/
def gapB (P : Params) (pc : SPc) (q : List Item) (now lt : Nat) : Prop :=
  match pc with
  | .waitGet dl => (q ≠ [] ∧ now ≤ lt + P.spacing + P.kaInterval) ∨ (dl ≤ lt + P.spacing + P.kaInterval ∧ now ≤ dl)
  | .timedOut => now ≤ lt + P.spacing + P.kaInterval
  | .got _ => now ≤ lt + P.spacing + P.kaInterval
  | .logging _ _ => now ≤ lt + P.spacing + P.kaInterval
  | .lockWait _ _ => now ≤ lt + P.spacing + P.kaInterval
  | .writing _ _ => now ≤ lt + P.spacing + P.kaInterval
  | .unlock => now = lt
  | .sleeping u => u = lt + P.spacing ∧ now ≤ u
  | _ => True

theorem gapB_enqueue {P : Params} {pc : SPc} {q : List Item} {now lt : Nat} (x : Item)
    (h : gapB P pc q now lt) : gapB P pc (q ++ [x]) now lt := by
  cases pc with
  | waitGet dl => exact h.imp_left fun h => ⟨by simp, h.2⟩
  | _ => exact h

def I4 (P : Params) (s : St) : Prop := Good s → gapB P s.spc s.queue s.now (lastTxOf s.wire s.madeAt)

/-- Only in a `Good` state, which can only come from a `Good` state.  Time passes only while the sender is blocked, and a sender
    waiting for the lock is not (`LockInv.free`); every sender rule re-establishes the bound for its new program point; `made0`
    starts the sender with an empty wire (`EarlyInv`). -/
theorem I4_step {P : Params} {s s' : St} {l : Label} {o : Option Obs} (h1 : EarlyInv s) (h2 : I2 s) (hl : LockInv s)
    (hi : I4 P s) (h : Step P s l s' o) : I4 P s' := by
  intro hg'
  have hg := Good.back h.later hg'
  have hb := hi hg
  clear hi hg'
  cases h with
  | @tick d _ hcm hdl =>
    have hS := stepS_none (canMove_false hcm).1
    cases hpc : s.spc <;> simp only [hpc, gapB] at hS hb ⊢
    case waitGet dl =>
      -- the queue is empty, so the bound is the deadline's; and the clock does not pass the deadline
      exact .inr ⟨(hb.resolve_left fun h => h.1 hS.1).1,
        (hdl dl (by simp [deadlines, hpc])).resolve_right (Nat.not_le.2 hS.2)⟩
    case sleeping u => have := hdl u (by simp [deadlines, hpc]); omega
    case lockWait => exact (hS (hl.free h2 hg.2.1 hg.2.2.1 (by rw [hpc]; rfl))).elim
  | s h =>
    cases h with
    | get hp hq => simp only [hp, hq, gapB] at hb ⊢; omega
    | timeout hp hq hd => simp only [hp, hq, gapB] at hb ⊢; simp at hb; omega
    | putKA hp => rw [hp] at hb; exact .inl ⟨by simp, hb⟩
    | exit | die => trivial
    | flag hp | classify hp | log hp | lock hp _ => rw [hp] at hb; exact hb
    | write => simp only [gapB, lastTxOf_concat]
    | unlock hp => simp only [hp, gapB] at hb ⊢; omega
    | wake hp hu => simp only [hp, gapB] at hb ⊢; omega
  | r h =>
    cases h with
    | made0 hp => exact .inr ⟨by simp [h1.noWire (h1.early (.inr hp)).1], Nat.le_add_right ..⟩
    | made2 | made3 | putExit => exact gapB_enqueue _ hb
    | drain hp => have := hg.1; rw [hp] at this; cases this
    | _ => exact hb
  | submit => exact gapB_enqueue _ hb
  | c _ _ h => cases h <;> exact hb
  | _ => exact hb

theorem I4_inv {P : Params} {s : St} (h : Reachable P s) : I4 P s :=
  h.induction (I4 P) (fun _ => trivial) fun _ _ _ _ hr hi =>
    I4_step (earlyInv hr) (I2_inv _ _ hr) (lockInv hr) hi

/-! ## the first two transmissions are probes -/

/-- how many keep-alives `connection_made` has certainly put into the pipeline -/
def need : RPc → Nat
  | .notStarted => 0
  | .made k => if k = 3 then 1 else 0
  | _ => 2

@[simp] theorem need_notStarted : need .notStarted = 0 := rfl
@[simp] theorem need_made (k : Nat) : need (.made k) = if k = 3 then 1 else 0 := rfl
@[simp] theorem need_setEvent : need .setEvent = 2 := rfl
@[simp] theorem need_loopTest : need .loopTest = 2 := rfl
@[simp] theorem need_reading (n : Nat) (d : Option Nat) : need (.reading n d) = 2 := rfl
@[simp] theorem need_split : need .split = 2 := rfl
@[simp] theorem need_line0 (l : String) : need (.line0 l) = 2 := rfl
@[simp] theorem need_line1 (l : String) : need (.line1 l) = 2 := rfl
@[simp] theorem need_line2 (l : String) (b : Bool) : need (.line2 l b) = 2 := rfl
@[simp] theorem need_deliver (l : String) (td : List Nat) : need (.deliver l td) = 2 := rfl
@[simp] theorem need_inCb (l : String) (cb : Nat) (td : List Nat) : need (.inCb l cb td) = 2 := rfl
@[simp] theorem need_lost (k : Nat) : need (.lost k) = 2 := rfl
@[simp] theorem need_lostJoin (d : Nat) : need (.lostJoin d) = 2 := rfl
@[simp] theorem need_inDiscCb : need .inDiscCb = 2 := rfl
@[simp] theorem need_done : need .done = 2 := rfl

/-- callers see the protocol only after `connection_made` has queued both keep-alives -/
def I5 (s : St) : Prop := (s.connMade = true → need s.rpc = 2) ∧ (s.published = true → s.connMade = true)

/-- reads `connMade`, `rpc`, `published`: `setEvent` sets the first when both keep-alives are queued, `publish` needs it; the
    reader rules before `setEvent` run while it is unset, those after it keep `need` at 2 -/
theorem I5_step {P : Params} {s s' : St} {l : Label} {o : Option Obs} (hi : I5 s) (h : Step P s l s' o) : I5 s' := by
  obtain ⟨h1, h2⟩ := hi
  cases h with
  | r h =>
    cases h with
    | setEvent => exact ⟨fun _ => rfl, fun _ => rfl⟩
    | made0 hp | made1 hp | made2 hp | startR hp => exact ⟨fun hc => by have := h1 hc; simp [hp] at this, h2⟩
    | drain => exact ⟨h1, h2⟩
    | _ => exact ⟨fun _ => rfl, h2⟩
  | publish hc => exact ⟨h1, fun _ => hc⟩
  | s h | c _ _ h => cases h <;> exact ⟨h1, h2⟩
  | _ => exact ⟨h1, h2⟩

theorem I5_inv {P : Params} {s : St} (h : Reachable P s) : I5 s :=
  h.induction I5 ⟨nofun, nofun⟩ fun _ _ _ _ _ => I5_step

/-- is this transmission a keep-alive probe? -/
def isP (t : String) (i : Option Nat) : Bool := decide (i = none ∧ t = probe)

def itemP : Item → Bool
  | .keepAlive => true
  | .cmd _ _ => false
  | .exit => false

/-- the item the sender has taken out of the queue and not yet written -/
def held : SPc → List Bool
  | .got m => [itemP m]
  | .logging t i => [isP t i]
  | .lockWait t i => [isP t i]
  | .writing t i => [isP t i]
  | _ => []

@[simp] theorem held_notStarted : held .notStarted = [] := rfl
@[simp] theorem held_waitGet (d : Nat) : held (.waitGet d) = [] := rfl
@[simp] theorem held_timedOut : held .timedOut = [] := rfl
@[simp] theorem held_got (m : Item) : held (.got m) = [itemP m] := rfl
@[simp] theorem held_logging (t : String) (i : Option Nat) : held (.logging t i) = [isP t i] := rfl
@[simp] theorem held_lockWait (t : String) (i : Option Nat) : held (.lockWait t i) = [isP t i] := rfl
@[simp] theorem held_writing (t : String) (i : Option Nat) : held (.writing t i) = [isP t i] := rfl
@[simp] theorem held_unlock : held .unlock = [] := rfl
@[simp] theorem held_sleeping (u : Nat) : held (.sleeping u) = [] := rfl
@[simp] theorem held_done : held .done = [] := rfl
@[simp] theorem held_dead : held .dead = [] := rfl
@[simp] theorem itemP_keepAlive : itemP .keepAlive = true := rfl
@[simp] theorem itemP_cmd (i : Nat) (t : String) : itemP (.cmd i t) = false := rfl
@[simp] theorem itemP_exit : itemP .exit = false := rfl

/-- everything written, held by the sender, or queued, in transmission order: is it a probe? -/
def pipeOf (w : List (Nat × String × Option Nat)) (pc : SPc) (q : List Item) : List Bool :=
  w.map (fun e => isP e.2.1 e.2.2) ++ (held pc ++ q.map itemP)

/-- the first two elements of the pipeline are probes, and it has at least `n` elements -/
def pipeInv (w : List (Nat × String × Option Nat)) (pc : SPc) (q : List Item) (n : Nat) : Prop :=
  (∀ b ∈ (pipeOf w pc q).take 2, b = true) ∧ n ≤ (pipeOf w pc q).length

theorem pipeInv_enqueue {w : List (Nat × String × Option Nat)} {pc : SPc} {q : List Item} {n n' : Nat} (x : Item)
    (h : pipeInv w pc q n) (hx : n = 2 ∨ itemP x = true) (hn : n' ≤ n + 1) : pipeInv w pc (q ++ [x]) n' := by
  have e : pipeOf w pc (q ++ [x]) = pipeOf w pc q ++ [itemP x] := by simp [pipeOf]
  unfold pipeInv at *
  rw [e]
  refine ⟨fun b hb => ?_, by simp; omega⟩
  rw [List.take_append, List.mem_append] at hb
  rcases hb with hb | hb
  · exact h.1 b hb
  · rcases hx with hx | hx
    · rw [show 2 - (pipeOf w pc q).length = 0 by omega] at hb; cases hb
    · rw [List.mem_singleton.mp (List.mem_of_mem_take hb), hx]

/-- the first two transmissions are probes -/
def W2 (w : List (Nat × String × Option Nat)) : Prop := ∀ e ∈ w.take 2, isP e.2.1 e.2.2 = true

theorem pipeInv_wire {w : List (Nat × String × Option Nat)} {pc : SPc} {q : List Item} {n : Nat}
    (h : pipeInv w pc q n) : W2 w := by
  intro e he
  apply h.1
  unfold pipeOf
  rw [List.take_append, List.mem_append, ← List.map_take]
  exact .inl (List.mem_map_of_mem he)

/-- while the reader has not begun `connection_lost`: the first two elements of the pipeline are probes -/
def I6 (s : St) : Prop :=
  lossBegun s.rpc = false →
    W2 s.wire ∧
    ((s.spc ≠ .notStarted ∧ s.spc ≠ .done ∧ s.spc ≠ .dead) → pipeInv s.wire s.spc s.queue (need s.rpc))

/-- Until `connection_lost` begins, which is for good.  The sender's rules pass an item along the pipeline; `putKA`, `made2` and `made3`
    append a probe, and a command is appended only once the two probes that `need` counts are in (`I5`); `made0` starts the sender
    with an empty wire (`EarlyInv`). -/
theorem I6_step {P : Params} {s s' : St} {l : Label} {o : Option Obs} (h1 : EarlyInv s) (h5 : I5 s) (hi : I6 s)
    (h : Step P s l s' o) : I6 s' := by
  intro hl'
  obtain ⟨hw, hpi⟩ := hi (h.later.loss_back hl')
  clear hi
  cases h with
  | s h =>
    replace hpi := hpi (by cases h <;> simp [*])
    cases h with
    | get hp hq => rw [hp, hq] at hpi; exact ⟨hw, fun _ => hpi⟩
    | timeout hp | flag hp | classify hp | log hp | lock hp | unlock hp | wake hp => rw [hp] at hpi; exact ⟨hw, fun _ => hpi⟩
    | putKA hp => rw [hp] at hpi; exact ⟨hw, fun _ => pipeInv_enqueue (pc := .waitGet _) _ hpi (.inr rfl) (Nat.le_succ _)⟩
    | exit | die => exact ⟨hw, fun h => by simp at h⟩
    | @write t i hp =>
      rw [hp] at hpi
      have : pipeInv (s.wire ++ [(s.now, t, i)]) .unlock s.queue (need s.rpc) := by simpa [pipeInv, pipeOf] using hpi
      exact ⟨pipeInv_wire this, fun _ => this⟩
  | r h =>
    cases h with
    | made0 hp => rw [h1.noWire (h1.early (.inr hp)).1] at *; exact ⟨hw, fun _ => ⟨nofun, Nat.le_refl _⟩⟩
    | made2 hp | made3 hp =>
      rw [hp] at hpi; exact ⟨hw, fun hr => pipeInv_enqueue _ (hpi hr) (.inr rfl) (Nat.le_refl _)⟩
    | putExit hp => rw [hp] at hpi; exact ⟨hw, fun hr => pipeInv_enqueue _ (hpi hr) (.inl rfl) (Nat.le_succ _)⟩
    | drain hp => rw [hp] at hl'; cases hl'
    | _ => rw [‹s.rpc = _›] at hpi; exact ⟨hw, hpi⟩
  | submit _ _ hpub =>
    exact ⟨hw, fun hr => pipeInv_enqueue _ (hpi hr) (.inl (h5.1 (h5.2 hpub))) (Nat.le_succ _)⟩
  | c _ _ h => cases h <;> exact ⟨hw, hpi⟩
  | _ => exact ⟨hw, hpi⟩

theorem I6_inv {P : Params} {s : St} (h : Reachable P s) : I6 s :=
  h.induction I6 (fun _ => ⟨nofun, fun h => absurd rfl h.1⟩) fun _ _ _ _ hr hi =>
    I6_step (earlyInv hr) (I5_inv hr) hi

end C12L
end Ynca.L4
