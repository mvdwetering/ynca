import YncaVerif.Lemmas.L4Run
/-! The invariant behind C16: what each program point of close() may rely on — a stopped reader, a closed port — and what has
happened once a close() has returned. -/
namespace Ynca.L4

/-- close() program points past `alive := false` -/
def needsDead : UPc → Bool
  | .closing (.c3 _) => true
  | .closing .c4 => true
  | .closing .c5 => true
  | .closing .c6 => true
  | .closing .r3 => true
  | _ => false

/-- close() program points past `serial.close()` -/
def needsClosed : UPc → Bool
  | .closing .c5 => true
  | .closing .c6 => true
  | _ => false

/-- `ret`: after a close() has returned the port is closed and the reader told to stop; `dead` / `closed`: the same two facts at
    the program points of close() past the step that establishes them -/
structure CloseInv (s : St) : Prop where
  ret : s.closeReturned = true → s.portOpen = false ∧ s.alive = false
  dead : ∀ t, needsDead (upcOf s t) = true → s.alive = false
  closed : ∀ t, needsClosed (upcOf s t) = true → s.portOpen = false

/-- thread `t0` moves from `q` to `p` while the other fields go from `s` to `s1`: what `p` needs it inherits from `q` or the step
    establishes; the other threads keep their program points, and a stopped reader and a closed port stay so -/
theorem CloseInv.move {s s1 : St} {t0 : Tid} {p q : UPc} (hi : CloseInv s) (hq : upcOf s t0 = q)
    (hd : needsDead p = true → needsDead q = true ∨ s1.alive = false)
    (hc : needsClosed p = true → needsClosed q = true ∨ s1.portOpen = false)
    (ha : s.alive = false → s1.alive = false := by exact id) (hp : s.portOpen = false → s1.portOpen = false := by exact id)
    (hret : s1.closeReturned = true → s.closeReturned = true ∨ (needsDead q = true ∧ needsClosed q = true) := by exact .inl)
    (hu : ∀ t, upcOf s1 t = upcOf s t := by exact fun _ => rfl) : CloseInv (s1.move t0 p) :=
  ⟨fun h => (hret h).elim (fun h => ⟨hp (hi.ret h).1, ha (hi.ret h).2⟩)
     fun h => ⟨hp (hi.closed t0 (hq ▸ h.2)), ha (hi.dead t0 (hq ▸ h.1))⟩,
   fun t => upcOf_move_cases (Q := fun u => needsDead u = true → s1.alive = false)
     (fun _ h => (hd h).elim (fun h => ha (hi.dead t0 (hq ▸ h))) id) fun _ h => ha (hi.dead t (hu t ▸ h)),
   fun t => upcOf_move_cases (Q := fun u => needsClosed u = true → s1.portOpen = false)
     (fun _ h => (hc h).elim (fun h => hp (hi.closed t0 (hq ▸ h))) id) fun _ h => hp (hi.closed t (hu t ▸ h))⟩

/-- Inside close(), `c2` / `r2` stop the reader and `c4` / `r3` close the port, which is what the program points after them need; every
    other step of a thread inherits what it needs from the point before (`CloseInv.move`); `c6` returns from a point that needs both. -/
theorem closeInv_step {P : Params} {s s' : St} {l : Label} {o : Option Obs}
    (hi : CloseInv s) (h : Step P s l s' o) : CloseInv s' := by
  cases h with
  | c t hp h =>
    cases h with
    | c2 | r2 => exact hi.move hp (fun _ => .inr rfl) nofun (fun _ => rfl)
    | c4 | c4Closed | r3 | r3Closed => exact hi.move hp (fun h => .inl h) (fun _ => .inr rfl) id (fun _ => rfl)
    | c6 => exact hi.move hp nofun nofun id id fun _ => .inr ⟨rfl, rfl⟩
    | _ => exact hi.move hp (fun h => .inl h) (fun h => .inl h)
  | submit _ hp | noConn _ hp | ret _ hp => exact hi.move hp nofun nofun
  | call _ hm | close _ hm | closeUnpubR hm | closeUnpub _ hm | closeNoReader _ hm => exact hi.move (mayCall_idle hm) nofun nofun
  | r h =>
    cases h with
    | lost0 => exact ⟨fun h => ⟨(hi.ret h).1, rfl⟩, fun _ _ => rfl, hi.closed⟩
    | _ => exact ⟨hi.ret, hi.dead, hi.closed⟩
  | connectFailed | connectFailedClosed => exact ⟨fun h => ⟨rfl, (hi.ret h).2⟩, hi.dead, fun _ _ => rfl⟩
  | s h => cases h <;> exact ⟨hi.ret, hi.dead, hi.closed⟩
  | _ => exact ⟨hi.ret, hi.dead, hi.closed⟩

theorem closeInv {P : Params} {s : St} (h : Reachable P s) : CloseInv s :=
  h.induction CloseInv (by constructor <;> simp [upcOf, lookup, needsDead, needsClosed]) fun _ _ _ _ _ => closeInv_step

/-- with the port closed no write is accepted by the transport -/
theorem no_write_when_closed {P : Params} {s s' : St} {l : Label} {t : String}
    (hp : s.portOpen = false) (h : Step P s l s' (some (.write t))) : False := by
  obtain ⟨_, _, ho, _⟩ := h.write_inv
  rw [hp] at ho; cases ho

end Ynca.L4
