/-! The message-level models (L5, L5m, L5c, L7, L7t) are partial step functions `step : σ → ι → Option σ`; each model's `run`,
defined by recursion, equals `List.foldlM step` in `Option` (its `run_eq_foldlM`; `runT_eq_foldlM` for L7t).  What holds of every such fold is said here once. -/
namespace Ynca

theorem foldlM_invariant {σ ι : Type} {step : σ → ι → Option σ} (P : σ → Prop)
    (hstep : ∀ s l s', P s → step s l = some s' → P s') :
    ∀ (ls : List ι) (s s' : σ), P s → ls.foldlM step s = some s' → P s' := by
  intro ls
  induction ls with
  | nil => intro s s' h0 hr; cases hr; exact h0
  | cons l ls ih =>
    intro s s' h0 hr
    rw [List.foldlM_cons] at hr
    cases hs : step s l with
    | none => rw [hs] at hr; cases hr
    | some s1 => rw [hs] at hr; exact ih s1 s' (hstep s l s1 h0 hs) hr

end Ynca
