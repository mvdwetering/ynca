import YncaVerif.Lemmas.C20
import YncaVerif.Lemmas.FramingX
/-! C20x: the causality clause of C20, no reply is listed before the command that caused it.

The L4 model keeps the unbounded log (`St.log`), the wire (`St.wire`) and the complete lines taken out of
the receive buffer (`St.rxLines`) as ghost history, but it does not remember *when* a byte was made
available by the device.  That is added here, outside the model, as a ghost that is a function of the
label history (`gstep` / `grun`): every byte fed by a `Label.dev` step is stamped with the number of
lines that were on the wire at that moment.

The invariants are stated of the data they read (the pending bytes, the reported lines, the length of the wire, the
log) and the ghost, with one lemma for each event that changes one of them; the step lemmas say which rule is which
event. -/
namespace Ynca.L4

def sendsOf (l : List LogEntry) : List String := l.filterMap (fun e => match e with | .send t => some t | _ => none)
def recvsOf (l : List LogEntry) : List String := l.filterMap (fun e => match e with | .received t => some t | _ => none)

structure Ghost where
  /-- every byte the device has made available (`Label.dev`), oldest first, each with the number of lines
      that were on the wire (`St.wire.length`) when it was made available -/
  fed : List (UInt8 × Nat) := []
  /-- the complete lines the reader has taken out of its buffer (without the CR LF), oldest first -/
  raw : List (List UInt8) := []
  /-- number of bytes of `fed` that belong to the lines in `raw` -/
  taken : Nat := 0
  /-- per line in `raw`: the stamp of its last byte (the LF) -/
  stamps : List Nat := []
deriving Repr, DecidableEq

/-- ghost update when the reader takes the complete line `p` (plus CR LF) out of its buffer: the stamp of the
    line is the stamp of the fed byte at offset `taken + p.length + 1`, the LF of its terminator -/
def gsplit (g : Ghost) (p : List UInt8) : Ghost :=
  { g with raw := g.raw ++ [p], taken := g.taken + (p.length + 2),
           stamps := g.stamps ++ [((g.fed[g.taken + p.length + 1]?).map (·.2)).getD 0] }

def gstep (s : St) (l : Label) (g : Ghost) : Ghost :=
  match l with
  | .dev bytes => { g with fed := g.fed ++ bytes.map (fun b => (b, s.wire.length)) }
  | .r =>
    match s.rpc with
    | .split =>
      match splitFirst CR LF s.buffer with
      | some (p, _) => gsplit g p
      | none => g
    | _ => g
  | _ => g

def grun (P : Params) : St → Ghost → List Label → Option (St × Ghost)
  | s, g, [] => some (s, g)
  | s, g, l :: ls => match step P s l with
    | some (s', _) => grun P s' (gstep s l g) ls
    | none => none

/-- index in the fed stream of the last byte (the LF) of the `j`-th line taken out -/
def lineEnd (raw : List (List UInt8)) (j : Nat) : Nat := (wireG CR LF (raw.take (j + 1)) []).length - 1

theorem grun_eq (P : Params) (s : St) (g : Ghost) (ls : List Label) :
    grun P s g ls = runWith (fun s l _ _ => gstep s l) P s g ls := by
  induction ls generalizing s g with
  | nil => rfl
  | cons l ls ih =>
    simp only [grun, runWith]
    cases step P s l with
    | none => rfl
    | some r => exact ih _ _

theorem gstep_fed (s : St) (g : Ghost) {l : Label} (hl : ∀ bytes, l ≠ .dev bytes) : (gstep s l g).fed = g.fed := by
  cases l with
  | dev bytes => exact absurd rfl (hl bytes)
  | r =>
    simp only [gstep]
    split
    · split <;> rfl
    · rfl
  | _ => rfl

theorem wireG_snoc (raw : List (List UInt8)) (p tail : List UInt8) :
    wireG CR LF (raw ++ [p]) tail = wireG CR LF raw (p ++ CR :: LF :: tail) := by
  simp [wireG]

theorem wireG_tail (raw : List (List UInt8)) (tail : List UInt8) :
    wireG CR LF raw tail = wireG CR LF raw [] ++ tail := by
  simp [wireG]

theorem lineEnd_old (raw : List (List UInt8)) (p : List UInt8) (j : Nat) (h : j < raw.length) :
    lineEnd (raw ++ [p]) j = lineEnd raw j := by
  unfold lineEnd
  rw [List.take_append_of_le_length (by omega)]

theorem lineEnd_new (raw : List (List UInt8)) (p : List UInt8) :
    lineEnd (raw ++ [p]) raw.length = (wireG CR LF raw []).length + p.length + 1 := by
  unfold lineEnd
  rw [List.take_of_length_le (by simp), wireG_snoc, wireG_tail]
  simp
  omega

theorem getElem?_append_of_some {α : Type} (a b : List α) (i : Nat) (x : α) (h : a[i]? = some x) :
    (a ++ b)[i]? = some x := by
  rw [List.getElem?_append_left (List.getElem?_eq_some_iff.1 h).1]; exact h

/-- `pend` is what the device has fed and the reader has not yet cut into lines (its buffer, then the port's input queue),
    `rx` the lines the model reports -/
structure StreamInv (pend : List UInt8) (rx : List String) (g : Ghost) : Prop where
  bytes : g.fed.map (·.1) = wireG CR LF g.raw pend
  taken : g.taken = (wireG CR LF g.raw []).length
  lines : rx = g.raw.map decodeLine
  slen : g.stamps.length = g.raw.length
  ends : ∀ j k, g.stamps[j]? = some k → g.fed[lineEnd g.raw j]? = some (LF, k)

theorem StreamInv.feed {pend : List UInt8} {rx : List String} {g : Ghost} (hi : StreamInv pend rx g)
    (bytes : List UInt8) (k : Nat) :
    StreamInv (pend ++ bytes) rx { g with fed := g.fed ++ bytes.map (fun b => (b, k)) } := by
  refine ⟨?_, hi.taken, hi.lines, hi.slen, fun j k hj => getElem?_append_of_some _ _ _ _ (hi.ends j k hj)⟩
  simp [wireG, hi.bytes, Function.comp_def]

theorem StreamInv.split {p pend : List UInt8} {rx : List String} {g : Ghost}
    (hi : StreamInv (p ++ CR :: LF :: pend) rx g) : StreamInv pend (rx ++ [decodeLine p]) (gsplit g p) := by
  have hLF : (g.fed.map (·.1))[g.taken + p.length + 1]? = some LF := by
    rw [hi.bytes, wireG_tail, hi.taken, Nat.add_assoc, List.getElem?_append_right (Nat.le_add_right _ _),
      Nat.add_sub_cancel_left, List.getElem?_append_right (Nat.le_add_right _ _), Nat.add_sub_cancel_left]
    rfl
  obtain ⟨⟨_, k0⟩, hk0, rfl⟩ := Option.map_eq_some_iff.1 (List.getElem?_map .. ▸ hLF)
  refine ⟨?_, ?_, ?_, ?_, fun j k hj => ?_⟩
  · show g.fed.map (·.1) = wireG CR LF (g.raw ++ [p]) pend
    rw [hi.bytes, wireG_snoc]
  · show g.taken + (p.length + 2) = (wireG CR LF (g.raw ++ [p]) []).length
    rw [wireG_snoc, wireG_tail, hi.taken]; simp
  · show rx ++ [decodeLine p] = (g.raw ++ [p]).map decodeLine
    rw [hi.lines]; simp
  · simp [gsplit, hi.slen]
  · show g.fed[lineEnd (g.raw ++ [p]) j]? = some (LF, k)
    simp only [gsplit, List.getElem?_append, List.getElem?_singleton, hk0] at hj
    split at hj
    · rw [lineEnd_old _ _ _ (hi.slen ▸ ‹_›)]
      exact hi.ends j k hj
    · split at hj
      · cases hj
        have hje : j = g.raw.length := by rw [← hi.slen]; omega
        rw [hje, lineEnd_new, ← hi.taken, hk0]; rfl
      · cases hj

theorem snoc_eq_append_cons {α : Type} (a pre post : List α) (x y : α) (h : a ++ [x] = pre ++ y :: post) :
    (post = [] ∧ a = pre ∧ x = y) ∨ ∃ post', post = post' ++ [x] ∧ a = pre ++ y :: post' := by
  rcases List.eq_nil_or_concat post with rfl | ⟨post', z, rfl⟩
  · left
    have := List.append_inj' h rfl
    simp at this
    exact ⟨rfl, this.1, this.2⟩
  · right
    have h' : a ++ [x] = (pre ++ y :: post') ++ [z] := by simpa using h
    have := List.append_inj' h' rfl
    simp at this
    obtain ⟨h1, rfl⟩ := this
    exact ⟨post', by simp, by simpa using h1⟩

theorem recvsOf_decomp (pre post : List LogEntry) (r : String) :
    recvsOf (pre ++ .received r :: post) = recvsOf pre ++ r :: recvsOf post := by
  simp [recvsOf]

theorem sendsOf_decomp (pre post : List LogEntry) (r : String) :
    sendsOf (pre ++ .received r :: post) = sendsOf pre ++ sendsOf post := by
  simp [sendsOf]

theorem wire_le_sends {P : Params} {s : St} (h : Reachable P s) : s.wire.length ≤ (sendsOf s.log).length := by
  obtain ⟨extra, h1, _⟩ := sends_faithful h
  have : (sendsOf s.log).length = (wireTexts s ++ extra).length := by rw [← h1]; rfl
  rw [this]; simp [wireTexts]

/-- `nw` lines are on the wire: no fed byte carries a larger stamp, and a `Received` entry of the log is preceded by at least as many `Send`
    entries as the stamp of its line says -/
structure OrderInv (nw : Nat) (log : List LogEntry) (g : Ghost) : Prop where
  fedLe : ∀ x ∈ g.fed, x.2 ≤ nw
  order : ∀ pre r post, log = pre ++ .received r :: post →
    ∀ k, g.stamps[(recvsOf pre).length]? = some k → k ≤ (sendsOf pre).length

section events
variable {nw : Nat} {log : List LogEntry} {g : Ghost} (hi : OrderInv nw log g)
include hi

theorem OrderInv.feed (bytes : List UInt8) : OrderInv nw log { g with fed := g.fed ++ bytes.map (fun b => (b, nw)) } := by
  refine ⟨fun x hx => ?_, hi.order⟩
  rcases List.mem_append.1 hx with hx | hx
  · exact hi.fedLe x hx
  · obtain ⟨_, _, rfl⟩ := List.mem_map.1 hx; exact Nat.le_refl _

theorem OrderInv.mono {nw' : Nat} (h : nw ≤ nw') : OrderInv nw' log g :=
  ⟨fun x hx => Nat.le_trans (hi.fedLe x hx) h, hi.order⟩

/-- a line is taken out; every `Received` entry of the log has its stamp already, so the new stamp is that of no entry -/
theorem OrderInv.split (hlen : (recvsOf log).length ≤ g.stamps.length) (p : List UInt8) : OrderInv nw log (gsplit g p) := by
  refine ⟨hi.fedLe, fun pre r post hl k hk => ?_⟩
  have h1 : (recvsOf pre).length < g.stamps.length := by
    rw [hl, recvsOf_decomp, List.length_append, List.length_cons] at hlen; omega
  exact hi.order pre r post hl k (by simpa [gsplit, List.getElem?_append_left h1] using hk)

theorem OrderInv.logSend (t : String) : OrderInv nw (log ++ [.send t]) g := by
  refine ⟨hi.fedLe, fun pre r post hl k hk => ?_⟩
  rcases snoc_eq_append_cons _ _ _ _ _ hl with ⟨_, _, h3⟩ | ⟨post', _, hl'⟩
  · cases h3
  · exact hi.order pre r post' hl' k hk

/-- the `Received` entry of a line is appended when everything on the wire has its `Send` entry; a stamp is the stamp of a
    fed byte (`he`: `StreamInv.ends`) -/
theorem OrderInv.logRecv (he : ∀ j k, g.stamps[j]? = some k → g.fed[lineEnd g.raw j]? = some (LF, k))
    (hw : nw ≤ (sendsOf log).length) (t : String) : OrderInv nw (log ++ [.received t]) g := by
  refine ⟨hi.fedLe, fun pre r post hl k hk => ?_⟩
  rcases snoc_eq_append_cons _ _ _ _ _ hl with ⟨_, rfl, _⟩ | ⟨post', _, hl'⟩
  · exact Nat.le_trans (hi.fedLe _ (List.mem_of_getElem? (he _ _ hk))) hw
  · exact hi.order pre r post' hl' k hk

end events

def GhostInv (s : St) (g : Ghost) : Prop :=
  StreamInv (s.buffer ++ s.inbox) s.rxLines g ∧ OrderInv s.wire.length s.log g

theorem GhostInv.stamped {P : Params} {s : St} {g : Ghost} (hi : GhostInv s g) (hr : Reachable P s) :
    (recvsOf s.log).length ≤ g.stamps.length := by
  obtain ⟨extra, he, _⟩ := receives_faithful hr
  have : s.rxLines.length = g.stamps.length := by rw [hi.1.lines, hi.1.slen]; simp
  rw [← this, he, List.length_append]; exact Nat.le_add_right _ _

/-- `dev` feeds bytes, `readData` moves pending bytes from the port's queue to the reader's buffer, the reader's `packet`
    takes a line out and `line0` lists it, the sender's `log` lists a line and `write` writes it; nothing else touches
    what the invariants read -/
theorem ghostInv_step {P : Params} {s s' : St} {l : Label} {o : Option Obs} {g : Ghost}
    (hr : Reachable P s) (hi : GhostInv s g) (h : Step P s l s' o) : GhostInv s' (gstep s l g) := by
  cases h with
  | dev => exact ⟨List.append_assoc .. ▸ hi.1.feed _ _, hi.2.feed _⟩
  | r h =>
    cases h with
    | readData =>
      refine ⟨?_, hi.2⟩
      show StreamInv (s.buffer ++ List.take _ s.inbox ++ List.drop _ s.inbox) _ _
      rw [List.append_assoc, List.take_append_drop]; exact hi.1
    | @packet p rest hp hsp =>
      simp only [gstep, hp, hsp]
      refine ⟨?_, hi.2.split (hi.stamped hr) p⟩
      have := hi.1
      rw [(splitFirst_some _ _ _ _ _ hsp).1, List.append_assoc, List.cons_append, List.cons_append] at this
      exact this.split
    | line0 hp => simp only [gstep, hp]; exact ⟨hi.1, hi.2.logRecv hi.1.ends (wire_le_sends hr) _⟩
    | _ => simp only [gstep, *]; exact hi
  | s h =>
    cases h with
    | log => exact ⟨hi.1, hi.2.logSend _⟩
    | write => exact ⟨hi.1, hi.2.mono (by simp)⟩
    | _ => exact hi
  | c _ _ h => cases h <;> exact hi
  | _ => exact hi

theorem ghost_invariants {P : Params} {ls : List Label} {s : St} {g : Ghost}
    (h : grun P {} {} ls = some (s, g)) : GhostInv s g := by
  rw [grun_eq] at h
  refine runWith_induction GhostInv (fun s _ => Reachable P s) (fun _ _ _ _ _ hr hi h => ghostInv_step hr hi h) h
    ⟨?_, ?_⟩ fun _ _ _ _ _ hr => Reachable.run ⟨[], rfl⟩ hr
  · constructor <;> simp [wireG]
  · constructor <;> simp

/-- since an intermediate state with wire `w0` and fed stream `f0`, both have only grown, and every byte fed since
    carries a stamp of at least `w0.length` -/
def Since (w0 : List (Nat × String × Option Nat)) (f0 : List (UInt8 × Nat))
    (w : List (Nat × String × Option Nat)) (fed : List (UInt8 × Nat)) : Prop :=
  (∃ ext, w = w0 ++ ext) ∧ ∃ new, fed = f0 ++ new ∧ ∀ x ∈ new, w0.length ≤ x.2

/-- the wire only grows (`Step.wire_mono`) and only `dev` touches the fed stream: it feeds bytes stamped with the length of the wire -/
theorem since_step {P : Params} {w0 : List (Nat × String × Option Nat)} {f0 : List (UInt8 × Nat)}
    {s s' : St} {l : Label} {o : Option Obs} {g : Ghost}
    (hi : Since w0 f0 s.wire g.fed) (h : Step P s l s' o) : Since w0 f0 s'.wire (gstep s l g).fed := by
  have ⟨⟨ext, hw⟩, new, hf, hn⟩ := hi
  obtain ⟨e, he⟩ := h.wire_mono
  refine ⟨⟨ext ++ e, by rw [he, hw, List.append_assoc]⟩, ?_⟩
  have hfed := gstep_fed s g (l := l)
  cases l with
  | dev bytes =>
    refine ⟨new ++ bytes.map (fun b => (b, s.wire.length)), by simp [gstep, hf], fun x hx => ?_⟩
    rcases List.mem_append.1 hx with hx | hx
    · exact hn x hx
    · obtain ⟨_, _, rfl⟩ := List.mem_map.1 hx; simp [hw]
  | _ => exact hfed (fun _ => nofun) ▸ hi.2

theorem since_run {P : Params} {ls : List Label} {s1 s : St} {g1 g : Ghost}
    (h : grun P s1 g1 ls = some (s, g)) : Since s1.wire g1.fed s.wire g.fed := by
  rw [grun_eq] at h
  exact runWith_invariant (fun s g => Since s1.wire g1.fed s.wire g.fed) (fun _ _ _ _ _ => since_step) h
    ⟨⟨[], by simp⟩, [], by simp, nofun⟩

end Ynca.L4
