import YncaVerif.Lemmas.L4Run
/-! The keep-alive flag behind C13: the flag mirrors two counters of the ghost history, and every recorded decision about a
received line is one Boolean equation (`decision_exact`). -/
namespace Ynca.L4

/-- the line is a `SYS:MODELNAME` report -/
def isModelname (l : String) : Bool :=
  (parseLine l).subunit == some "SYS" && (parseLine l).fn == some "MODELNAME"

theorem handleLine_withheld (ka : Bool) (l : String) : (handleLine ka l).2 = (ka && isModelname l) := by
  simp [handleLine, isModelname, Bool.and_assoc]

structure KaInv (s : St) : Prop where
  flag : s.kaPending = decide (s.probesAtClear < s.probesStarted)
  le : s.probesAtClear ≤ s.probesStarted
  decisions : ∀ d ∈ s.decisions, d.2.1 = (d.2.2 && isModelname d.1)

/-- only four kinds of rule write the flag, the counters or the decisions: the sender's `flag`, `connection_made` (`made1`) and
    the reader's `withhold` / `deliver` clearing the flag, and `line1` recording a decision -/
theorem kaInv_step {P : Params} {s s' : St} {l : Label} {o : Option Obs} (hi : KaInv s) (h : Step P s l s' o) : KaInv s' := by
  obtain ⟨h1, h2, h3⟩ := hi
  cases h with
  | s h =>
    cases h with
    | flag => exact ⟨by simp; omega, Nat.le_succ_of_le h2, h3⟩
    | _ => exact ⟨h1, h2, h3⟩
  | r h =>
    cases h with
    | made1 | withhold | deliver => exact ⟨by simp, Nat.le_refl _, h3⟩
    | line1 =>
      refine ⟨h1, h2, fun d hd => ?_⟩
      rcases List.mem_append.mp hd with hd | hd
      · exact h3 d hd
      · cases List.mem_singleton.mp hd
        exact (handleLine_withheld ..).trans (h1 ▸ rfl)
    | _ => exact ⟨h1, h2, h3⟩
  | c _ _ h => cases h <;> exact ⟨h1, h2, h3⟩
  | _ => exact ⟨h1, h2, h3⟩

theorem kaInv {P : Params} {s : St} (h : Reachable P s) : KaInv s :=
  h.induction KaInv ⟨rfl, Nat.le_refl _, nofun⟩ fun _ _ _ _ _ => kaInv_step

/-- every line of every execution is withheld exactly when it is a `SYS:MODELNAME` line and a probe was flagged since the
    flag was last cleared; the C13 statements are readings of this equation -/
theorem decision_exact {P : Params} {s : St} (h : Reachable P s) :
    ∀ d ∈ s.decisions, d.2.1 = (d.2.2 && isModelname d.1) :=
  (kaInv h).decisions

end Ynca.L4
