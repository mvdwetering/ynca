import YncaVerif.Lemmas.Link
import YncaVerif.Lemmas.Run
/-! The L5 dialogue model (C06 barrier / bound, C07 stage barriers): `step` as a relation, the stage invariant on
top of the link's, and the barrier in the terms of a stage. -/
namespace Ynca.L5

theorem run_eq_foldlM (answer : Answer) (s : D) (ls : List Label) :
    run answer s ls = ls.foldlM (step answer) s := by
  induction ls generalizing s with
  | nil => rfl
  | cons l ls ih => rw [run, List.foldlM_cons]; cases step answer s l <;> simp [ih]

inductive Step (answer : Answer) (s : D) : Label → D → Prop
  | begin (queries : List String) (timeout : Nat) (hst : s.stage = .idle ∨ s.stage = .ok)
      (hq : ∀ q ∈ queries, q ≠ versionQuery) :
    Step answer s (.begin queries timeout)
      { s with event := false, pending := s.pending ++ queries ++ [versionQuery],
               stage := .waiting s.enqueued (queries.length + 1) (s.now + timeout),
               enqueued := s.enqueued + queries.length + 1, vq := s.vq + 1 }
  | write (q : String) (rest : List String) (hp : s.pending = q :: rest) :
    Step answer s .write { s with pending := rest, written := s.written ++ [q] }
  | consume (h : s.consumed < s.written.length) :
    Step answer s .consume
      { s with consumed := s.consumed + 1, emitted := s.emitted ++ answer s.written[s.consumed],
               ansEnd := s.ansEnd ++ [(s.emitted ++ answer s.written[s.consumed]).length] }
  | unsolicited (l : String) (hv : isVersionLine l = false) :
    Step answer s (.unsolicited l) { s with emitted := s.emitted ++ [l] }
  | process (h : s.processed < s.emitted.length) :
    Step answer s .process
      { s with processed := s.processed + 1,
               vl := if isVersionLine s.emitted[s.processed] then s.vl + 1 else s.vl,
               event := s.event || (isVersionLine s.emitted[s.processed] &&
                 (match s.stage with | .waiting _ _ _ => true | _ => false)) }
  | wake (f c dl : Nat) (hst : s.stage = .waiting f c dl) (he : s.event = true) :
    Step answer s .wake { s with stage := .ok }
  | timeout (f c dl : Nat) (hst : s.stage = .waiting f c dl) (he : s.event = false) (hdl : dl ≤ s.now) :
    Step answer s .timeout { s with stage := .failed }
  | tickWaiting (f c dl d : Nat) (hst : s.stage = .waiting f c dl) (he : s.event = false) (hle : s.now + d ≤ dl)
      (hd : 0 < d) :
    Step answer s (.tick d) { s with now := s.now + d }
  | tick (d : Nat) (hst : ∀ f c dl, s.stage ≠ .waiting f c dl) (hd : 0 < d) :
    Step answer s (.tick d) { s with now := s.now + d }

theorem step_sound {answer : Answer} {s s' : D} {l : Label} (h : step answer s l = some s') : Step answer s l s' := by
  revert h
  fun_cases step answer s l <;> intro h <;> cases h
  · next hc => exact .begin _ _ hc.1 hc.2
  · next hp => exact .write _ _ hp
  · next hc _ => exact .consume hc
  · next hv => exact .unsolicited _ (Bool.eq_false_iff.mpr hv)
  · next hc _ _ => exact .process hc
  · next hst he => exact .wake _ _ _ hst he
  · next hst hc =>
    simp only [Bool.and_eq_true, Bool.not_eq_true', decide_eq_true_eq] at hc
    exact .timeout _ _ _ hst hc.1 hc.2
  · next hst he hc => exact .tickWaiting _ _ _ _ hst (Bool.eq_false_iff.mpr he) hc.1 hc.2
  · next hd hst => exact .tick _ hst hd

theorem reachable_induction (answer : Answer) (P : D → Prop) (h0 : P {})
    (hstep : ∀ s l s', P s → Step answer s l s' → P s') (s : D) (h : Reachable answer s) : P s := by
  obtain ⟨ls, hr⟩ := h
  exact foldlM_invariant P (fun s l s' hp hs => hstep s l s' hp (step_sound hs)) ls {} s h0
    (run_eq_foldlM answer {} ls ▸ hr)

def D.link (s : D) : Link :=
  ⟨s.pending, s.written, s.consumed, s.emitted, s.ansEnd, s.processed, s.enqueued, s.vq, s.vl⟩

theorem Step.link {answer : Answer} {s s' : D} {l : Label} (h : Step answer s l s') :
    Link.Step answer s.link s'.link := by
  cases h with
  | begin queries _ _ hq => exact .enqueue queries hq
  | write q rest hp => exact .write q rest hp
  | consume h => exact .consume h
  | unsolicited l hv => exact .emit l hv
  | process h => exact .process h
  | wake | timeout | tickWaiting | tick => exact .refl

structure InvS (s : D) : Prop where
  wait_enq : ∀ f c dl, s.stage = .waiting f c dl → f + c = s.enqueued
  bal_rest : s.stage = .idle ∨ s.stage = .ok → s.vl = s.vq
  bal_set : ∀ f c dl, s.stage = .waiting f c dl → s.event = true → s.vl = s.vq
  bal_unset : ∀ f c dl, s.stage = .waiting f c dl → s.event = false → s.vl + 1 = s.vq

theorem InvS.step {answer : Answer} {s s' : D} {l : Label} (hi : InvS s) (hle : s'.vl ≤ s'.vq)
    (hs : Step answer s l s') : InvS s' := by
  cases hs with
  | begin queries timeout hst =>
    exact {
      wait_enq := fun f c dl h => by cases h; exact (Nat.add_assoc ..).symm
      bal_rest := fun h => h.elim nofun nofun
      bal_set := nofun
      bal_unset := fun _ _ _ _ _ => congrArg (· + 1) (hi.bal_rest hst) }
  | write | consume | unsolicited | tickWaiting | tick => exact ⟨hi.1, hi.2, hi.3, hi.4⟩
  | process h =>
    -- a `SYS:VERSION` line is processed only while a stage waits for it: otherwise `vl` would pass `vq`
    dsimp only at hle
    generalize isVersionLine s.emitted[s.processed] = b at hle ⊢
    cases b
    · simp only [Bool.false_and, Bool.or_false]; exact ⟨hi.1, hi.2, hi.3, hi.4⟩
    · simp only [if_true] at hle
      refine ⟨hi.1, fun h => ?_, fun f c dl h _ => ?_, fun f c dl h he => ?_⟩
      · have := hi.bal_rest h; omega
      · cases hev : s.event
        · exact hi.bal_unset f c dl h hev
        · have := hi.bal_set f c dl h hev; omega
      · simp only [show s.stage = .waiting f c dl from h, Bool.true_and, Bool.or_true] at he
        cases he
  | wake f c dl hst he =>
    exact { wait_enq := nofun, bal_rest := fun _ => hi.bal_set f c dl hst he, bal_set := nofun, bal_unset := nofun }
  | timeout =>
    exact { wait_enq := nofun, bal_rest := fun h => h.elim nofun nofun, bal_set := nofun, bal_unset := nofun }

theorem reachable_inv (answer : Answer) (ha : AnswerOk answer) (s : D) (h : Reachable answer s) :
    Link.Inv answer s.link ∧ InvS s := by
  refine reachable_induction answer (fun s => Link.Inv answer s.link ∧ InvS s)
    ⟨.init answer, by constructor <;> simp⟩ ?_ s h
  intro s l s' ⟨hi, his⟩ hs
  have hi' := hi.step ha hs.link
  exact ⟨hi', his.step hi'.vl_le_vq hs⟩

theorem barrier (answer : Answer) (ha : AnswerOk answer) (s : D) (h : Reachable answer s) (hok : s.stage = .ok) :
    s.consumed = s.enqueued ∧ s.written.length = s.enqueued ∧ s.pending = [] ∧
    ∀ e ∈ s.ansEnd, e ≤ s.processed :=
  have ⟨hi, his⟩ := reachable_inv answer ha s h
  have ⟨h1, h2, h3, h4, _⟩ := hi.barrier ha (his.bal_rest (.inr hok))
  ⟨h1, h2, h3, h4⟩

/-- Where the answers sit in the emitted stream: the answer to the i-th consumed command is the end of the first `ansEnd[i]`
    emitted lines (`Link.Inv.ans_suffix`).  With the barrier this says what the reader HAS processed when a stage is woken:
    every line of every answer to the stage's commands. -/
theorem woken_has_processed_answers (answer : Answer) (ha : AnswerOk answer) (s : D) (h : Reachable answer s)
    (first count dl : Nat) (hw : s.stage = .waiting first count dl) (he : s.event = true)
    (i : Nat) (hi : i < first + count) (q : String) (hq : s.written[i]? = some q) :
    ∀ l ∈ answer q, l ∈ s.emitted.take s.processed := by
  have ⟨hk, his⟩ := reachable_inv answer ha s h
  have hi : i < s.enqueued := his.wait_enq _ _ _ hw ▸ hi
  have ⟨_, _, _, hall⟩ := hk.answers_processed ha (his.bal_set _ _ _ hw he) i hi
  exact hall q hq

end Ynca.L5
