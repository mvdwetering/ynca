import YncaVerif.Model.Conv
/-! Lookup in a list under pairwise distinct keys, and what it gives for a well-formed enumeration table (used by C04, C05, C10 and the subunit lemmas). -/
namespace Ynca

theorem find?_key_of_nodup {α β : Type} [DecidableEq β] (g : α → β) {l : List α}
    (hnd : (l.map g).Nodup) {x : α} (hx : x ∈ l) : l.find? (g · == g x) = some x := by
  induction l with
  | nil => cases hx
  | cons a l ih =>
    rw [List.map_cons, List.nodup_cons] at hnd
    rw [List.find?_cons]
    split
    · rename_i hax
      rcases List.mem_cons.mp hx with rfl | hxl
      · rfl
      · exact absurd (List.mem_map.mpr ⟨x, hxl, (beq_iff_eq.mp hax).symm⟩) hnd.1
    · rename_i hax
      rcases List.mem_cons.mp hx with rfl | hxl
      · simp at hax
      · exact ih hnd.2 hxl

def nodupB : List String → Bool
  | [] => true
  | x :: xs => !xs.contains x && nodupB xs

theorem nodupB_iff (l : List String) : nodupB l = true ↔ l.Nodup := by
  induction l with
  | nil => simp [nodupB]
  | cons x xs ih => simp [nodupB, ih]

def enumOk (t : EnumTbl) : Bool :=
  t.hasMissing &&
  t.members.any (fun m => m.1 == "UNKNOWN" && m.2 == "< UNKNOWN >") &&
  nodupB (t.members.map (·.2)) && nodupB (t.members.map (·.1))

theorem enumOk_iff (t : EnumTbl) : enumOk t = true ↔
    t.hasMissing = true ∧ ("UNKNOWN", "< UNKNOWN >") ∈ t.members ∧
    (t.members.map (·.2)).Nodup ∧ (t.members.map (·.1)).Nodup := by
  simp only [enumOk, Bool.and_eq_true, nodupB_iff, List.any_eq_true, beq_iff_eq, and_assoc]
  refine and_congr_right fun _ => and_congr_left fun _ => ?_
  exact ⟨fun ⟨m, hm, h1, h2⟩ => by rwa [← h1, ← h2], fun h => ⟨_, h, rfl, rfl⟩⟩

theorem decodeEnum_cases (t : EnumTbl) (s : String) :
    (∃ n, (n, s) ∈ t.members ∧ decodeEnum t s = .ok (.member t.name n)) ∨
    ((∀ m ∈ t.members, m.2 ≠ s) ∧
      decodeEnum t s = if t.hasMissing then .ok (.member t.name "UNKNOWN") else .raises) := by
  unfold decodeEnum
  cases hf : t.members.find? (·.2 == s) with
  | some p =>
    have htxt : p.2 = s := by simpa using List.find?_some hf
    exact .inl ⟨p.1, htxt ▸ List.mem_of_find?_eq_some hf, rfl⟩
  | none => exact .inr ⟨fun m hm heq => by simpa [heq] using List.find?_eq_none.mp hf m hm, rfl⟩

theorem findEnum_some {tbls : List EnumTbl} {e : String} {t : EnumTbl} (h : findEnum tbls e = some t) :
    t.name = e ∧ t ∈ tbls :=
  ⟨by simpa using List.find?_some h, List.mem_of_find?_eq_some h⟩

theorem memberText_of_mem {t : EnumTbl} (h : enumOk t = true) {n txt : String} (hm : (n, txt) ∈ t.members) :
    memberText t n = some txt := by
  rw [memberText, find?_key_of_nodup (·.1) ((enumOk_iff t).mp h).2.2.2 hm]; rfl

theorem decodeEnum_of_mem {t : EnumTbl} (h : enumOk t = true) {n txt : String} (hm : (n, txt) ∈ t.members) :
    decodeEnum t txt = .ok (.member t.name n) := by
  rw [decodeEnum, find?_key_of_nodup (·.2) ((enumOk_iff t).mp h).2.2.1 hm]

end Ynca
