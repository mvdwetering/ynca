import YncaVerif.Model.ConnCheck
import YncaVerif.Lemmas.Run
/-! The message-level model of `connection_check()` (L5c) falls into two parts that do not touch each other: the
protocol part `D` (flag, callback, event, model name, zones, outcome), on which every label acts as a total function
`dStep` — so the outcome of a run is a fold over its labels, and only `probe / line / wake / timeout` matter —
and the clock (`now`, `deadline`), constrained by `TInv`. -/
namespace Ynca.CC

theorem run_eq_foldlM (T : Nat) (s : St) (ls : List Label) : run T s ls = ls.foldlM (step T) s := by
  induction ls generalizing s with
  | nil => rfl
  | cons l ls ih => rw [run, List.foldlM_cons]; cases step T s l <;> simp [ih]

inductive Step (T : Nat) (s : St) : Label → St → Prop
  | probe : Step T s .probe { s with flag := true }
  | line (l : String) : Step T s (.line l) (onLine s l)
  | wait (hd : s.deadline = none) : Step T s .wait { s with deadline := some (s.now + T) }
  | wake (dl : Nat) (hd : s.deadline = some dl) (ho : s.outcome = none) (he : s.event = true) :
    Step T s .wake { s with listening := false, outcome := some (.ok s.modelname s.zones) }
  | timeout (dl : Nat) (hd : s.deadline = some dl) (ho : s.outcome = none) (hle : dl ≤ s.now) :
    Step T s .timeout { s with listening := false, outcome := some .error }
  | tickWaiting (dl d : Nat) (hd : s.deadline = some dl) (ho : s.outcome = none) (he : s.event = false)
      (hle : s.now + d ≤ dl) (h0 : d ≠ 0) :
    Step T s (.tick d) { s with now := s.now + d }
  | tick (d : Nat) (hnw : ∀ dl, s.deadline = some dl → s.outcome = none → False) (h0 : d ≠ 0) :
    Step T s (.tick d) { s with now := s.now + d }

theorem step_sound {T : Nat} {s s' : St} {l : Label} (h : step T s l = some s') : Step T s l s' := by
  revert h
  fun_cases step T s l <;> intro h <;> cases h
  · exact .probe
  · exact .line _
  · next hd => exact .wait (Option.isNone_iff_eq_none.mp hd)
  · next ho hd he => exact .wake _ hd ho he
  · next ho hd hle => exact .timeout _ hd ho hle
  · next h0 _ ho hd he hle => exact .tickWaiting _ _ hd ho (Bool.eq_false_iff.mpr he) hle h0
  · next h0 hnw => exact .tick _ hnw h0

structure D where
  flag : Bool
  listening : Bool
  event : Bool
  modelname : String
  zones : List String
  outcome : Option Outcome
deriving DecidableEq, Repr

def dOf (s : St) : D := ⟨s.flag, s.listening, s.event, s.modelname, s.zones, s.outcome⟩
def d0 : D := ⟨false, true, false, "", [], none⟩

def dMsg (d : D) (m : Msg) : D :=
  let d1 := if m.subunit == some "SYS" && m.fn == some "MODELNAME" && m.value.isSome
            then { d with modelname := m.value.getD "", event := true } else d
  if m.fn == some "AVAIL" && m.subunit.isSome then { d1 with zones := d1.zones ++ [m.subunit.getD ""] } else d1

def dStep (d : D) : Label → D
  | .probe => { d with flag := true }
  | .line l =>
    let r := handleLine d.flag l
    let e := { d with flag := false }
    if r.2 || !d.listening then e else dMsg e r.1
  | .wake => if d.outcome.isNone && d.event then { d with listening := false, outcome := some (.ok d.modelname d.zones) } else d
  | .timeout => if d.outcome.isNone then { d with listening := false, outcome := some .error } else d
  | _ => d

theorem onMsg_eq (s : St) (m : Msg) :
    dOf (onMsg s m) = dMsg (dOf s) m ∧ (onMsg s m).now = s.now ∧ (onMsg s m).deadline = s.deadline := by
  simp only [onMsg, dMsg]
  split <;> split <;> exact ⟨rfl, rfl, rfl⟩

theorem onLine_eq (s : St) (l : String) :
    dOf (onLine s l) = dStep (dOf s) (.line l) ∧ (onLine s l).now = s.now ∧ (onLine s l).deadline = s.deadline := by
  by_cases hc : ((handleLine s.flag l).2 || !s.listening) = true
  · rw [show onLine s l = { s with flag := false } from if_pos hc]
    exact ⟨(if_pos hc).symm, rfl, rfl⟩
  · rw [show onLine s l = onMsg { s with flag := false } (handleLine s.flag l).1 from if_neg hc]
    exact ⟨(onMsg_eq _ _).1.trans (if_neg hc).symm, (onMsg_eq _ _).2⟩

theorem dOf_step {T : Nat} {s s' : St} {l : Label} (h : Step T s l s') : dOf s' = dStep (dOf s) l := by
  cases h with
  | probe | wait | tickWaiting | tick => rfl
  | line l => exact (onLine_eq s l).1
  | wake _ _ ho he => simp only [dStep, dOf, ho, he]; rfl
  | timeout _ _ ho => simp only [dStep, dOf, ho]; rfl

def isMn (l : String) : Bool := (parseLine l).subunit == some "SYS" && (parseLine l).fn == some "MODELNAME"

def zonesOf (ls : List String) : List String :=
  ls.filterMap (fun l => if (parseLine l).fn == some "AVAIL" then (parseLine l).subunit else none)

theorem dStep_line (d : D) (l : String) :
    (dStep d (.line l)).listening = d.listening ∧ (dStep d (.line l)).outcome = d.outcome ∧
    (d.event = true → (dStep d (.line l)).event = true) := by
  simp only [dStep, dMsg]
  (repeat' split) <;> simp

theorem event_mono (d : D) (l : Label) (h : d.event = true) : (dStep d l).event = true := by
  cases l with
  | line l => exact (dStep_line d l).2.2 h
  | wake | timeout => simp only [dStep]; split <;> exact h
  | probe | wait | tick => exact h

theorem event_mono_fold (d : D) (ls : List Label) (h : d.event = true) : (ls.foldl dStep d).event = true := by
  induction ls generalizing d with
  | nil => exact h
  | cons l ls ih => exact ih _ (event_mono d l h)

theorem fold_nonMn (d : D) (ans : List String) (hl : d.listening = true) (hn : ∀ a ∈ ans, isMn a = false) :
    (ans.map Label.line).foldl dStep d =
      { d with flag := if ans = [] then d.flag else false, zones := d.zones ++ zonesOf ans } := by
  induction ans generalizing d with
  | nil => simp [zonesOf]
  | cons a ans ih =>
    have ha : ((parseLine a).subunit == some "SYS" && (parseLine a).fn == some "MODELNAME") = false := hn a (by simp)
    have hstep : dStep d (.line a) = { d with flag := false, zones := d.zones ++ zonesOf [a] } := by
      simp only [dStep, handleLine, hl, dMsg, zonesOf, List.filterMap_cons, List.filterMap_nil, Bool.and_assoc, ha,
        Bool.and_false, Bool.false_and, Bool.not_true, Bool.or_self, Bool.false_eq_true, ↓reduceIte]
      cases (parseLine a).subunit <;> by_cases hf : ((parseLine a).fn == some "AVAIL") = true <;> simp [hf]
    rw [List.map_cons, List.foldl_cons, hstep,
      ih { d with flag := false, zones := d.zones ++ zonesOf [a] } hl fun x hx => hn x (List.mem_cons_of_mem _ hx)]
    have hz : zonesOf [a] ++ zonesOf ans = zonesOf (a :: ans) := (List.filterMap_append ..).symm
    simp [List.append_assoc, hz]

def IsMnLine (name : String) (l : String) : Prop := parseLine l = ⟨.ok, some "SYS", some "MODELNAME", some name⟩

theorem step_withheld (d : D) (l name : String) (hf : d.flag = true) (hm : IsMnLine name l) :
    dStep d (.line l) = { d with flag := false } := by
  simp [dStep, handleLine, hf, show parseLine l = _ from hm]

theorem step_delivered_mn (d : D) (l name : String) (hf : d.flag = false) (hl : d.listening = true) (hm : IsMnLine name l) :
    dStep d (.line l) = { d with modelname := name, event := true } := by
  cases d
  simp_all [dStep, handleLine, dMsg, show parseLine l = _ from hm]

theorem step_not_listening (d : D) (l : String) (hl : d.listening = false) : dStep d (.line l) = { d with flag := false } := by
  simp [dStep, hl]

/-- the sequence of protocol events when every reply is handled before the next command is taken out of the queue
    (reply latency below the command spacing); the first probe may be swallowed by a sleeping receiver -/
def fastHead (mn1 : Option String) (mn2 : String) (ans : List String) : List Label :=
  [Label.probe] ++ (mn1.map Label.line).toList ++ [Label.probe, Label.line mn2] ++ ans.map Label.line

def fastCore (mn1 : Option String) (mn2 : String) (ans : List String) (mn3 : String) : List Label :=
  fastHead mn1 mn2 ans ++ [Label.line mn3]

theorem fold_fastHead (mn1 : Option String) (mn2 : String) (ans : List String) (n1 n2 : String)
    (h1 : ∀ l, mn1 = some l → IsMnLine n1 l) (h2 : IsMnLine n2 mn2) (hn : ∀ a ∈ ans, isMn a = false) :
    (fastHead mn1 mn2 ans).foldl dStep d0 = ⟨false, true, false, "", zonesOf ans, none⟩ := by
  unfold fastHead
  rw [List.foldl_append, List.foldl_append, List.foldl_append]
  have e1 : ((mn1.map Label.line).toList).foldl dStep ([Label.probe].foldl dStep d0) = ⟨mn1.isNone, true, false, "", [], none⟩ := by
    cases mn1 with
    | none => rfl
    | some l => simp only [Option.map_some, Option.toList_some, List.foldl_cons, List.foldl_nil]
                rw [step_withheld _ l n1 rfl (h1 l rfl)]; rfl
  rw [e1]
  have e2 : [Label.probe, Label.line mn2].foldl dStep ⟨mn1.isNone, true, false, "", [], none⟩ = ⟨false, true, false, "", [], none⟩ := by
    simp only [List.foldl_cons, List.foldl_nil]
    rw [step_withheld _ mn2 n2 rfl h2]; rfl
  rw [e2, fold_nonMn _ ans rfl hn]
  simp

theorem fold_fastCore (mn1 : Option String) (mn2 : String) (ans : List String) (mn3 n1 n2 n3 : String)
    (h1 : ∀ l, mn1 = some l → IsMnLine n1 l) (h2 : IsMnLine n2 mn2) (hn : ∀ a ∈ ans, isMn a = false) (h3 : IsMnLine n3 mn3) :
    (fastCore mn1 mn2 ans mn3).foldl dStep d0 = ⟨false, true, true, n3, zonesOf ans, none⟩ := by
  unfold fastCore
  rw [List.foldl_append, fold_fastHead mn1 mn2 ans n1 n2 h1 h2 hn]
  simp only [List.foldl_cons, List.foldl_nil]
  rw [step_delivered_mn _ mn3 n3 rfl rfl h3]

def noWake : Label → Bool
  | .wake => false
  | .timeout => false
  | _ => true

theorem outcome_noWake (d : D) (ls : List Label) (h : ∀ l ∈ ls, noWake l = true) : (ls.foldl dStep d).outcome = d.outcome := by
  induction ls generalizing d with
  | nil => rfl
  | cons l ls ih =>
    rw [List.foldl_cons, ih _ fun x hx => h x (List.mem_cons_of_mem _ hx)]
    have := h l List.mem_cons_self
    cases l with
    | line l => exact (dStep_line d l).2.1
    | wake | timeout => cases this
    | probe | wait | tick => rfl

theorem fastCore_noWake (mn1 : Option String) (mn2 : String) (ans : List String) (mn3 : String) :
    ∀ l ∈ fastCore mn1 mn2 ans mn3, noWake l = true := by
  intro l hl
  simp only [fastCore, fastHead, List.mem_append, List.mem_cons, List.mem_map, List.not_mem_nil, or_false] at hl
  rcases hl with (((hl | hl) | hl) | hl) | hl
  · subst hl; rfl
  · cases mn1 <;> simp at hl; subst hl; rfl
  · rcases hl with rfl | rfl <;> rfl
  · obtain ⟨a, _, rfl⟩ := hl; rfl
  · subst hl; rfl

theorem fast_event_needs_all (mn1 : Option String) (mn2 : String) (ans : List String) (mn3 n1 n2 : String)
    (h1 : ∀ l, mn1 = some l → IsMnLine n1 l) (h2 : IsMnLine n2 mn2) (hn : ∀ a ∈ ans, isMn a = false)
    (pre post : List Label) (hE : pre ++ post = fastCore mn1 mn2 ans mn3) (hev : (pre.foldl dStep d0).event = true) :
    post = [] := by
  rcases List.eq_nil_or_concat post with rfl | ⟨post', x, rfl⟩
  · rfl
  · -- otherwise `pre` and the rest of `post` make up `fastHead`, after which the event is not set
    rw [List.concat_eq_append, ← List.append_assoc] at hE
    have := event_mono_fold _ post' hev
    rw [← List.foldl_append, (List.append_inj' hE rfl).1, fold_fastHead mn1 mn2 ans n1 n2 h1 h2 hn] at this
    cases this

/-- **the recorded finding, for every device**: when both start-up probes are taken before either reply is handled (reply latency
    at or above the command spacing), the reply to the second probe is delivered as a model-name message: the event is set, and
    the caller woken, while not a single zone has been reported -/
theorem fold_slow (mn1 mn2 n1 n2 : String) (h1 : IsMnLine n1 mn1) (h2 : IsMnLine n2 mn2) :
    [Label.probe, Label.probe, Label.line mn1, Label.line mn2, Label.wake].foldl dStep d0 =
      ⟨false, false, true, n2, [], some (.ok n2 [])⟩ := by
  simp only [List.foldl_cons, List.foldl_nil]
  rw [show dStep (dStep d0 Label.probe) Label.probe = ⟨true, true, false, "", [], none⟩ from rfl,
      step_withheld _ mn1 n1 rfl h1, step_delivered_mn _ mn2 n2 rfl rfl h2]
  rfl

def isCW : Label → Bool
  | .probe | .line _ | .wake | .timeout => true
  | _ => false

theorem fold_filter (d : D) (ls : List Label) : ls.foldl dStep d = (ls.filter isCW).foldl dStep d := by
  induction ls generalizing d with
  | nil => rfl
  | cons l ls ih =>
    cases l <;> simp [List.filter_cons, isCW, ih, dStep]

theorem dOf_run {T : Nat} {s s' : St} {ls : List Label} (h : run T s ls = some s') :
    dOf s' = (ls.filter isCW).foldl dStep (dOf s) := by
  rw [← fold_filter]
  induction ls generalizing s with
  | nil => cases h; rfl
  | cons l ls ih =>
    rw [run] at h
    split at h
    · next s1 hs => rw [List.foldl_cons, ← dOf_step (step_sound hs)]; exact ih h
    · cases h

structure TInv (s : St) : Prop where
  error_late : s.outcome = some .error → ∃ dl, s.deadline = some dl ∧ dl ≤ s.now
  urgent : ∀ dl, s.deadline = some dl → s.outcome = none → s.event = false → s.now ≤ dl
  no_outcome_without_wait : s.deadline = none → s.outcome = none

theorem tinv_step {T : Nat} {s s' : St} {l : Label} (hi : TInv s) (h : Step T s l s') : TInv s' := by
  cases h with
  | probe => exact ⟨hi.1, hi.2, hi.3⟩
  | line x =>
    obtain ⟨hd, hnow, hdl⟩ := onLine_eq s x
    have ho : (onLine s x).outcome = s.outcome := (congrArg D.outcome hd).trans (dStep_line _ x).2.1
    have he : (onLine s x).event = false → s.event = false := fun h => Bool.eq_false_iff.mpr fun ht => by
      have := (congrArg D.event hd).symm.trans h
      rw [(dStep_line _ x).2.2 ht] at this
      cases this
    exact ⟨by rw [ho, hnow, hdl]; exact hi.1,
      fun dl hd' ho' he' => by rw [hnow]; exact hi.2 dl (hdl ▸ hd') (ho ▸ ho') (he he'),
      by rw [ho, hdl]; exact hi.3⟩
  | wait hd => exact {
      error_late := fun ho => nomatch (hi.3 hd).symm.trans ho
      urgent := fun _ hdl _ _ => by cases hdl; exact Nat.le_add_right ..
      no_outcome_without_wait := nofun }
  | wake dl hd => exact {
      error_late := nofun
      urgent := fun _ _ ho => nomatch ho
      no_outcome_without_wait := fun h => nomatch hd.symm.trans h }
  | timeout dl hd ho hle => exact {
      error_late := fun _ => ⟨dl, hd, hle⟩
      urgent := fun _ _ ho => nomatch ho
      no_outcome_without_wait := fun h => nomatch hd.symm.trans h }
  | tickWaiting dl d hd ho he hle => exact {
      error_late := fun h => nomatch ho.symm.trans h
      urgent := fun _ hdl _ _ => Option.some.inj (hd.symm.trans hdl) ▸ hle
      no_outcome_without_wait := fun h => nomatch hd.symm.trans h }
  | tick d hnw => exact {
      error_late := fun ho => have ⟨dl, hd, hle⟩ := hi.1 ho; ⟨dl, hd, Nat.le_trans hle (Nat.le_add_right ..)⟩
      urgent := fun dl hd ho _ => (hnw dl hd ho).elim
      no_outcome_without_wait := hi.3 }

theorem tinv_run {T : Nat} {s : St} {ls : List Label} (h : run T {} ls = some s) : TInv s :=
  foldlM_invariant TInv (fun _ _ _ hi hs => tinv_step hi (step_sound hs)) ls {} s ⟨nofun, nofun, fun _ => rfl⟩
    (run_eq_foldlM T {} ls ▸ h)

end Ynca.CC
