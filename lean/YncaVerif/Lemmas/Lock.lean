import YncaVerif.Lemmas.L4Basic
/-! Who holds the transport lock (L4): close() is entered through its first step (`I2`), and whoever holds the lock is at a program
point from which it releases it (`LockInv`); so while no close() has begun only the sender takes it (`LockInv.free`).  Used by the
gap invariant of C12 and by `NoHang`. -/
namespace Ynca.L4

namespace C12L

/-- a thread that is inside `close()` past its first step -/
def closingPast : UPc → Bool
  | .closing pc => decide (pc ≠ .c0)
  | .idle => false
  | .submitting _ => false
  | .returning => false

@[simp] theorem closingPast_closing (pc : CPc) : closingPast (.closing pc) = decide (pc ≠ .c0) := rfl
@[simp] theorem closingPast_idle : closingPast .idle = false := rfl
@[simp] theorem closingPast_submitting (x : String) : closingPast (.submitting x) = false := rfl
@[simp] theorem closingPast_returning : closingPast .returning = false := rfl

/-- while no `close()` has cleared the disconnect callback and none was entered on an unpublished connection
    (the path that skips the clearing step), no thread is further inside `close()` -/
def I2 (s : St) : Prop := s.closeStarted = false → s.closeUnpub = false → ∀ t, closingPast (upcOf s t) = false

/-- a thread gets past `c0` only by `c0` itself or by the unpublished entry, which set one of the two flags; a thread that moves
    on inside close() was past `c0` before; every other move ends outside close() or at `c0` -/
theorem I2_step {P : Params} {s s' : St} {l : Label} {o : Option Obs} (hi : I2 s) (h : Step P s l s' o) : I2 s' := by
  cases h with
  | call | close | closeNoReader | submit | noConn | ret =>
    exact fun hc hu t => upcOf_move_cases (Q := fun u => closingPast u = false) (fun _ => rfl) fun _ => hi hc hu t
  | closeUnpubR | closeUnpub => exact fun _ => nofun
  | c t0 hp h =>
    cases h with
    | c0 | c0R => exact nofun
    | _ => exact fun hc hu => nomatch hp ▸ hi hc hu t0
  | s h | r h => cases h <;> exact hi
  | _ => exact hi

theorem I2_inv (P : Params) (s : St) (h : Reachable P s) : I2 s :=
  h.induction I2 (by simp [I2, upcOf, lookup]) fun _ _ _ _ _ => I2_step

/-- the sender holds the transport lock exactly while writing -/
def holdsLock : SPc → Bool
  | .writing _ _ => true
  | .unlock => true
  | _ => false

@[simp] theorem holdsLock_notStarted : holdsLock .notStarted = false := rfl
@[simp] theorem holdsLock_waitGet (d : Nat) : holdsLock (.waitGet d) = false := rfl
@[simp] theorem holdsLock_timedOut : holdsLock .timedOut = false := rfl
@[simp] theorem holdsLock_got (m : Item) : holdsLock (.got m) = false := rfl
@[simp] theorem holdsLock_logging (t : String) (i : Option Nat) : holdsLock (.logging t i) = false := rfl
@[simp] theorem holdsLock_lockWait (t : String) (i : Option Nat) : holdsLock (.lockWait t i) = false := rfl
@[simp] theorem holdsLock_writing (t : String) (i : Option Nat) : holdsLock (.writing t i) = true := rfl
@[simp] theorem holdsLock_unlock : holdsLock .unlock = true := rfl
@[simp] theorem holdsLock_sleeping (u : Nat) : holdsLock (.sleeping u) = false := rfl
@[simp] theorem holdsLock_done : holdsLock .done = false := rfl
@[simp] theorem holdsLock_dead : holdsLock .dead = false := rfl

end C12L

namespace NoHang
open C12L

/-- a thread inside the part of `close()` that holds the transport lock -/
def holdsClose : UPc → Bool
  | .closing .c2 => true
  | .closing (.c3 _) => true
  | .closing .c4 => true
  | .closing .c5 => true
  | _ => false

@[simp] theorem holdsClose_idle : holdsClose .idle = false := rfl
@[simp] theorem holdsClose_submitting (x : String) : holdsClose (.submitting x) = false := rfl
@[simp] theorem holdsClose_returning : holdsClose .returning = false := rfl
@[simp] theorem holdsClose_c0 : holdsClose (.closing .c0) = false := rfl
@[simp] theorem holdsClose_c1 : holdsClose (.closing .c1) = false := rfl
@[simp] theorem holdsClose_c2 : holdsClose (.closing .c2) = true := rfl
@[simp] theorem holdsClose_c3 (d : Nat) : holdsClose (.closing (.c3 d)) = true := rfl
@[simp] theorem holdsClose_c4 : holdsClose (.closing .c4) = true := rfl
@[simp] theorem holdsClose_c5 : holdsClose (.closing .c5) = true := rfl
@[simp] theorem holdsClose_c6 : holdsClose (.closing .c6) = false := rfl
@[simp] theorem holdsClose_r1 : holdsClose (.closing .r1) = false := rfl
@[simp] theorem holdsClose_r2 : holdsClose (.closing .r2) = false := rfl
@[simp] theorem holdsClose_r3 : holdsClose (.closing .r3) = false := rfl

/-- whoever holds the transport lock is at a program point from which it releases it: the sender while writing, or a thread inside
    the locked part of `close()` -/
def LockInv (s : St) : Prop :=
  ∀ t, s.lock = some t → (t = tidS ∧ holdsLock s.spc = true) ∨ holdsClose (upcOf s t) = true

/-- a step that leaves the lock alone keeps the invariant if it keeps every holder at a holding point -/
theorem LockInv.keep {s s' : St} (hi : LockInv s) (hs : holdsLock s.spc = true → holdsLock s'.spc = true)
    (hu : ∀ t, holdsClose (upcOf s t) = true → holdsClose (upcOf s' t) = true) (hl : s'.lock = s.lock := by rfl) :
    LockInv s' :=
  fun t h => (hi t (hl ▸ h)).imp (.imp_right hs) (hu t)

/-- thread `t0` moves from `q` to `p` under a rule that writes neither the lock nor the sender's program point -/
theorem LockInv.move {s s1 : St} {t0 : Tid} {p q : UPc} (hi : LockInv s) (hq : upcOf s t0 = q)
    (h0 : holdsClose q = true → holdsClose p = true) (hl : s1.lock = s.lock := by rfl) (hs : s1.spc = s.spc := by rfl)
    (hu : ∀ t, upcOf s1 t = upcOf s t := by exact fun _ => rfl) : LockInv (s1.move t0 p) :=
  hi.keep (s' := s1.move t0 p) (fun h => hs ▸ h) (hl := hl) fun t =>
    upcOf_move_cases (Q := fun u => holdsClose (upcOf s t) = true → holdsClose u = true)
      (fun e h => h0 (hq ▸ e ▸ h)) fun _ h => hu t ▸ h

/-- The lock is written by the sender's `lock` / `unlock` / `die` and by close() at `c1` / `c5`; every other move takes a holding point
    to a holding point; `made0` starts the sender, which by `EarlyInv` was not running. -/
theorem lockInv_step {P : Params} {s s' : St} {l : Label} {o : Option Obs} (h1 : EarlyInv s) (hi : LockInv s)
    (h : Step P s l s' o) : LockInv s' := by
  cases h with
  | s h =>
    cases h with
    | lock => exact fun t h => by cases h; exact .inl ⟨rfl, rfl⟩
    | die | unlock => exact nofun
    | get hp _ | timeout hp _ _ | putKA hp | exit hp | flag hp | classify hp | log hp | write hp _ _ | wake hp _ =>
      exact hi.keep (fun h => by rw [hp] at h; exact h) fun _ h => h
  | r h =>
    cases h with
    | made0 hp => exact hi.keep (fun h => by rw [(h1.early (.inr hp)).1] at h; exact h) fun _ h => h
    | _ => exact hi
  | call _ hm | close _ hm _ | closeUnpubR hm _ _ | closeUnpub _ hm _ _ _ | closeNoReader _ hm _ _ =>
    exact hi.move (mayCall_idle hm) id
  | submit _ hp _ _ | noConn _ hp _ | ret _ hp => exact hi.move hp id
  | c _ hp hc =>
    cases hc with
    | c1 => exact fun t h => by cases h; exact .inr (by rw [upcOf_move, if_pos rfl]; rfl)
    | c5 => exact nofun
    | c2 | c3 | c4 | c4Closed => exact hi.move hp fun _ => rfl
    | _ => exact hi.move hp id
  | _ => exact hi

theorem lockInv {P : Params} {s : St} (h : Reachable P s) : LockInv s :=
  h.induction LockInv nofun fun _ _ _ _ hr hi => lockInv_step (earlyInv hr) hi

/-- while no `close()` has begun, only the sender takes the transport lock -/
theorem LockInv.free {s : St} (hi : LockInv s) (h2 : I2 s) (hc : s.closeStarted = false) (hu : s.closeUnpub = false)
    (hs : holdsLock s.spc = false) : s.lock = none := by
  cases hl : s.lock with
  | none => rfl
  | some t =>
    rcases hi t hl with ⟨_, h⟩ | h
    · rw [hs] at h; cases h
    · have hp : closingPast (upcOf s t) = true := by
        cases hq : upcOf s t with
        | closing pc => rw [hq] at h; cases pc <;> first | rfl | cases h
        | _ => rw [hq] at h; cases h
      rw [h2 hc hu t] at hp; cases hp

end NoHang

end Ynca.L4
