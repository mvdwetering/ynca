import YncaVerif.Lemmas.L4Run
/-! Facts about the L4 model shared by the C01 / C08 / C15x / C20 invariants: who hands out command ids and writes to
the wire, the state before `connection_made`.  At the end a coarse summary of the steps by what they do to the fields those
properties read (`StepKind`); the proofs go by the rules and do not use it. -/
namespace Ynca.L4

/-! ### projections of `setUpc`

The rules write `St.move` (`setUpc_eq_move`), so no proof below needs these; they are for statements that speak of `setUpc` itself. -/
section setUpc
variable (s : St) (t : Tid) (p : UPc)
@[simp] theorem setUpc_lock : (setUpc s t p).lock = s.lock := by rw [setUpc_eq_move]
@[simp] theorem setUpc_madeAt : (setUpc s t p).madeAt = s.madeAt := by rw [setUpc_eq_move]
@[simp] theorem C12L.setUpc_queueMade : (setUpc s t p).queueMade = s.queueMade := by rw [setUpc_eq_move]
end setUpc

theorem C17L.setUpc_closeUnpub (s : St) (t : Tid) (p : UPc) : (setUpc s t p).closeUnpub = s.closeUnpub := by
  rw [setUpc_eq_move]
@[simp] theorem closeReturned_setUpc' (s : St) (t : Tid) (p : UPc) : (setUpc s t p).closeReturned = s.closeReturned := by
  rw [setUpc_eq_move]
@[simp] theorem discCalls_setUpc' (s : St) (t : Tid) (p : UPc) : (setUpc s t p).discCalls = s.discCalls := by
  rw [setUpc_eq_move]
@[simp] theorem wireTimes_setUpc (s : St) (t : Tid) (p : UPc) : wireTimes (setUpc s t p) = wireTimes s := by
  rw [setUpc_eq_move]; rfl
@[simp] theorem logRecvs_setUpc (s : St) (t : Tid) (p : UPc) : logRecvs (setUpc s t p) = logRecvs s := by
  rw [setUpc_eq_move]; rfl

/-! ### the rules that write `submitted`, `nextId`, `wire` -/

/-- the keep-alive and exit markers are no commands -/
theorem queueCmds_append_marker {q : List Item} {it : Item} (h : queueCmds [it] = []) : queueCmds (q ++ [it]) = queueCmds q := by
  rw [queueCmds, List.filterMap_append, ← queueCmds, ← queueCmds, h, List.append_nil]

theorem queueCmds_append_cmd (q : List Item) (i : Nat) (t : String) : queueCmds (q ++ [.cmd i t]) = queueCmds q ++ [(i, t)] := by
  simp [queueCmds]

/-- user commands enter the queue only through `submit`, under the next id; no other rule hands out an id, and the
    others that write the queue (`get`, `drain`, `made0`; the keep-alive and exit markers) add no command to it -/
theorem Step.submit_cases {P : Params} {s s' : St} {l : Label} {o : Option Obs} (h : Step P s l s' o) :
    (s'.submitted = s.submitted ∧ s'.nextId = s.nextId ∧ (queueCmds s'.queue).Sublist (queueCmds s.queue)) ∨
    ∃ t text, s'.submitted = s.submitted ++ [(t, s.nextId, text)] ∧ s'.nextId = s.nextId + 1 ∧
      s'.queue = s.queue ++ [.cmd s.nextId text] := by
  cases h with
  | submit => exact .inr ⟨_, _, rfl, rfl, rfl⟩
  | s h =>
    cases h with
    | get _ hq => exact .inl ⟨rfl, rfl, hq ▸ (List.sublist_cons_self _ _).filterMap _⟩
    | putKA => exact .inl ⟨rfl, rfl, by rw [queueCmds_append_marker (it := .keepAlive) rfl]; exact .refl _⟩
    | _ => exact .inl ⟨rfl, rfl, .refl _⟩
  | r h =>
    cases h with
    | made0 => exact .inl ⟨rfl, rfl, List.nil_sublist _⟩
    | made2 | made3 => exact .inl ⟨rfl, rfl, by rw [queueCmds_append_marker (it := .keepAlive) rfl]; exact .refl _⟩
    | putExit => exact .inl ⟨rfl, rfl, by rw [queueCmds_append_marker (it := .exit) rfl]; exact .refl _⟩
    | drain _ hq => exact .inl ⟨rfl, rfl, hq ▸ (List.sublist_cons_self _ _).filterMap _⟩
    | _ => exact .inl ⟨rfl, rfl, .refl _⟩
  | c _ _ h => cases h <;> exact .inl ⟨rfl, rfl, .refl _⟩
  | _ => exact .inl ⟨rfl, rfl, .refl _⟩

/-- ids are never handed back -/
theorem Step.nextId_le {P : Params} {s s' : St} {l : Label} {o : Option Obs} (h : Step P s l s' o) :
    s.nextId ≤ s'.nextId := by
  rcases h.submit_cases with ⟨_, h, _⟩ | ⟨_, _, _, h, _⟩ <;> omega

/-- the wire is append-only (`write` is the one rule that writes it) -/
theorem Step.wire_mono {P : Params} {s s' : St} {l : Label} {o : Option Obs} (h : Step P s l s' o) :
    ∃ ext, s'.wire = s.wire ++ ext := by
  cases h with
  | s h =>
    cases h with
    | write => exact ⟨_, rfl⟩
    | _ => exact ⟨[], (List.append_nil _).symm⟩
  | r h | c _ _ h => cases h <;> exact ⟨[], (List.append_nil _).symm⟩
  | _ => exact ⟨[], (List.append_nil _).symm⟩

theorem run_wire_mono {P : Params} {s s' : St} {ls : List Label} (hr : run P s ls = some s') : ∃ ext, s'.wire = s.wire ++ ext :=
  run_induction (fun s' => ∃ ext, s'.wire = s.wire ++ ext)
    (fun _ _ _ _ ⟨ext, h2⟩ h => let ⟨e, he⟩ := h.wire_mono; ⟨ext ++ e, by rw [he, h2, List.append_assoc]⟩)
    hr ⟨[], (List.append_nil _).symm⟩

/-! ### before `connection_made` -/

/-- reader before `connection_made` has created the queue and started the sender -/
def early (r : RPc) : Prop := r = .notStarted ∨ r = .made 0

/-- the sender is created by `connection_made`, exactly once -/
structure EarlyInv (s : St) : Prop where
  /-- before the first step of `connection_made` there is no sender and no queue -/
  early : early s.rpc → s.spc = .notStarted ∧ s.queueMade = false ∧ s.queue = []
  /-- a sender that has not been started has written nothing -/
  noWire : s.spc = .notStarted → s.wire = []

/-- the sender's rules need a started sender and end at one, and `submit` needs the queue; `startR` is the only rule that moves the
    reader to an `early` program point, every other rule that moves it leaves them for good; `made0` starts the sender -/
theorem earlyInv_step {P : Params} {s s' : St} {l : Label} {o : Option Obs} (hi : EarlyInv s) (h : Step P s l s' o) :
    EarlyInv s' := by
  obtain ⟨h1, h2⟩ := hi
  cases h with
  | s h => cases h <;> exact ⟨fun he => (by rw [(h1 he).1] at *; contradiction), nofun⟩
  | r h =>
    cases h with
    | startR hp => exact ⟨fun _ => h1 (.inl hp), h2⟩
    | made0 => exact ⟨fun he => (by simp [early] at he), nofun⟩
    | drain hp => exact ⟨fun he => (by simp [early, hp] at he), h2⟩
    | _ => exact ⟨fun he => (by simp [early] at he), h2⟩
  | submit _ _ _ hq => exact ⟨fun he => (nomatch (h1 he).2.1.symm.trans hq), h2⟩
  | c _ _ h => cases h <;> exact ⟨h1, h2⟩
  | _ => exact ⟨h1, h2⟩

theorem earlyInv {P : Params} {s : St} (h : Reachable P s) : EarlyInv s :=
  h.induction EarlyInv ⟨fun _ => ⟨rfl, rfl, rfl⟩, fun _ => rfl⟩ fun _ _ _ _ _ => earlyInv_step

/-! ### a coarse classification of the steps -/

/-- the fields the FIFO / log / timing invariants talk about (all but `rpc`) -/
structure SameCore (s s' : St) : Prop where
  now : s'.now = s.now
  wire : s'.wire = s.wire
  spc : s'.spc = s.spc
  queue : s'.queue = s.queue
  queueMade : s'.queueMade = s.queueMade
  log : s'.log = s.log
  submitted : s'.submitted = s.submitted
  nextId : s'.nextId = s.nextId
  rxLines : s'.rxLines = s.rxLines

theorem SameCore.refl (s : St) : SameCore s s := by constructor <;> rfl

theorem SameCore.wireTimes {s s' : St} (h : SameCore s s') : wireTimes s' = wireTimes s := by
  simp [Ynca.L4.wireTimes, h.wire]
theorem SameCore.logRecvs {s s' : St} (h : SameCore s s') : logRecvs s' = logRecvs s := by
  simp [Ynca.L4.logRecvs, h.log]

def isLine0 : RPc → Option String
  | .line0 l => some l
  | _ => none

/-- how the reader's pc may change in a step that leaves the core fields alone -/
inductive RpcEnv : RPc → RPc → Prop
  | same (r : RPc) : RpcEnv r r
  | start : RpcEnv .notStarted (.made 0)
  | other (r r' : RPc) : ¬ early r → ¬ early r' → isLine0 r = none → isLine0 r' = none →
      (lossBegun r = true → lossBegun r' = true) → RpcEnv r r'

inductive StepKind (P : Params) (s s' : St) : Prop
  | tick (d : Nat) : s' = { s with now := s.now + d } → StepKind P s s'
  | sender (o : Option Obs) : stepS P s = some (s', o) → StepKind P s s'
  | submit (t : Tid) (text : String) : s.queueMade = true →
      s' = setUpc { s with queue := s.queue ++ [.cmd s.nextId text],
                           submitted := s.submitted ++ [(t, s.nextId, text)],
                           nextId := s.nextId + 1 } t .returning → StepKind P s s'
  | made0 : s.rpc = .made 0 →
      s' = { s with rpc := .made 1, queueMade := true, queue := [], spc := .waitGet (s.now + P.kaInterval), madeAt := s.now } →
      StepKind P s s'
  | enq (it : Item) (r' : RPc) : (∀ i t, it ≠ .cmd i t) → RpcEnv s.rpc r' → ¬ early s.rpc →
      s' = { enqueue s it with rpc := r' } → StepKind P s s'
  | drain (x : Item) (q : List Item) : s.rpc = .lost 1 → s.queue = x :: q → s' = { s with queue := q } → StepKind P s s'
  | split (l : String) (rest : List UInt8) : s.rpc = .split →
      s' = { s with rpc := .line0 l, buffer := rest, rxLines := s.rxLines ++ [l] } → StepKind P s s'
  | logRecv (l : String) : s.rpc = .line0 l →
      s' = { s with rpc := .line1 l, log := s.log ++ [.received l] } → StepKind P s s'
  | env : SameCore s s' → RpcEnv s.rpc s'.rpc → StepKind P s s'

theorem step_kind' (P : Params) (s s' : St) (l : Label) (o : Option Obs)
    (h : step P s l = some (s', o)) :
    StepKind P s s' := by
  -- a move of the reader between two program points past `made 0`, neither of them `line0`
  have other : ∀ {r r' : RPc}, s.rpc = r → (¬ early r ∧ ¬ early r' ∧ isLine0 r = none ∧ isLine0 r' = none ∧
      (lossBegun r = true → lossBegun r' = true)) → RpcEnv s.rpc r' :=
    fun hp ⟨h1, h2, h3, h4, h5⟩ => hp ▸ .other _ _ h1 h2 h3 h4 h5
  cases step_sound h with
  | tick => exact .tick _ rfl
  | s => exact .sender _ h
  | submit _ _ _ hq => exact .submit _ _ hq (setUpc_eq_move ..).symm
  | r hr =>
    cases hr with
    | made0 hp => exact .made0 hp rfl
    | made2 hp | made3 hp | putExit hp =>
      exact .enq _ _ (by simp) (other hp (by simp [early, isLine0, lossBegun])) (by simp [hp, early]) rfl
    | drain hp hq => exact .drain _ _ hp hq rfl
    | packet hp => exact .split _ _ hp rfl
    | line0 hp => exact .logRecv _ hp rfl
    | startR hp => exact .env ⟨rfl, rfl, rfl, rfl, rfl, rfl, rfl, rfl, rfl⟩ (hp ▸ .start)
    | _ =>
      exact .env ⟨rfl, rfl, rfl, rfl, rfl, rfl, rfl, rfl, rfl⟩ (other ‹s.rpc = _› (by simp [early, isLine0, lossBegun]))
  | c _ _ h => cases h <;> exact .env ⟨rfl, rfl, rfl, rfl, rfl, rfl, rfl, rfl, rfl⟩ (.same _)
  | _ => exact .env ⟨rfl, rfl, rfl, rfl, rfl, rfl, rfl, rfl, rfl⟩ (.same _)

end Ynca.L4
