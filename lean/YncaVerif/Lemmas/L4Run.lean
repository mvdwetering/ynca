import YncaVerif.Lemmas.L4Rules
/-! Executions of the L4 model: induction along a run, rule by rule — with a passenger.

Some properties speak of history the model does not keep (which callbacks were invoked for a line, when a byte was
fed).  Such a record is computed next to the model: a value `g : G` rides along a run and is updated at every
transition `s --l/o--> s'` by a function of that transition; it never influences the model.  Here is what holds of
every such run, whatever the record: it projects to the model's run, it splits over `++`, and what every rule preserves
holds along it. -/
namespace Ynca.L4

/-- `run` with a passenger `g` that `upd` updates at each transition -/
def runWith {G : Type} (upd : St → Label → St → Option Obs → G → G) (P : Params) : St → G → List Label → Option (St × G)
  | s, g, [] => some (s, g)
  | s, g, l :: ls => match step P s l with
    | some (s', o) => runWith upd P s' (upd s l s' o g) ls
    | none => none

variable {G : Type} {upd : St → Label → St → Option Obs → G → G} {P : Params}

theorem runWith_fst (ls : List Label) (s : St) (g : G) : (runWith upd P s g ls).map (·.1) = run P s ls := by
  induction ls generalizing s g with
  | nil => rfl
  | cons l ls ih =>
    simp only [runWith, run]
    cases step P s l with
    | none => rfl
    | some r => exact ih _ _

theorem runWith_run {s s' : St} {g g' : G} {ls : List Label} (h : runWith upd P s g ls = some (s', g')) :
    run P s ls = some s' := by
  rw [← runWith_fst (upd := upd) ls s g, h]; rfl

theorem run_runWith {s s' : St} {ls : List Label} (g : G) (h : run P s ls = some s') :
    ∃ g', runWith upd P s g ls = some (s', g') := by
  rw [← runWith_fst (upd := upd) ls s g, Option.map_eq_some_iff] at h
  obtain ⟨⟨_, g'⟩, h, rfl⟩ := h
  exact ⟨g', h⟩

theorem runWith_append (s : St) (g : G) (a b : List Label) :
    runWith upd P s g (a ++ b) = (runWith upd P s g a).bind fun r => runWith upd P r.1 r.2 b := by
  induction a generalizing s g with
  | nil => rfl
  | cons l ls ih =>
    simp only [List.cons_append, runWith]
    cases step P s l with
    | none => rfl
    | some r => exact ih _ _

/-- the run without a passenger is the run with a trivial one -/
theorem run_append (s : St) (a b : List Label) :
    run P s (a ++ b) = (run P s a).bind (fun s' => run P s' b) := by
  simp only [← runWith_fst (upd := fun _ _ _ _ (u : Unit) => u) _ _ (), runWith_append]
  cases runWith _ P s () a <;> rfl

theorem Reachable.run {P : Params} {s s' : St} {ls : List Label}
    (h : Reachable P s) (hr : L4.run P s ls = some s') : Reachable P s' := by
  obtain ⟨ls0, h0⟩ := h
  exact ⟨ls0 ++ ls, by rw [run_append, h0]; exact hr⟩

theorem Reachable.step {P : Params} {s s' : St} {l : Label} {o : Option Obs}
    (h : Reachable P s) (hs : L4.step P s l = some (s', o)) : Reachable P s' :=
  h.run (ls := [l]) (by simp [L4.run, hs])

/-- Induction along a run with a passenger, rule by rule.  The step case may assume `ok s l` of the source state and the
    label of the step, provided `ok` holds of every step of the run: `fun _ _ => True` for an invariant proper,
    `fun s _ => Reachable P s` on a run from a reachable state, a condition on the labels, a condition on the states. -/
theorem runWith_induction (Inv : St → G → Prop) (ok : St → Label → Prop)
    (hstep : ∀ s g l s' o, ok s l → Inv s g → Step P s l s' o → Inv s' (upd s l s' o g))
    {ls : List Label} {s0 s : St} {g0 g : G} (hr : runWith upd P s0 g0 ls = some (s, g)) (h0 : Inv s0 g0)
    (hok : ∀ pre l post s1, ls = pre ++ l :: post → run P s0 pre = some s1 → ok s1 l) : Inv s g := by
  induction ls generalizing s0 g0 with
  | nil => cases hr; exact h0
  | cons l ls ih =>
    simp only [runWith] at hr
    split at hr
    · rename_i s1 o hst
      refine ih hr (hstep _ _ _ _ _ (hok [] l ls s0 rfl rfl) h0 (step_sound hst)) fun pre l' post s2 e hr' => ?_
      exact hok (l :: pre) l' post s2 (by rw [e]; rfl) (by simp only [run, hst]; exact hr')
    · cases hr

theorem runWith_invariant (Inv : St → G → Prop) (hstep : ∀ s g l s' o, Inv s g → Step P s l s' o → Inv s' (upd s l s' o g))
    {ls : List Label} {s0 s : St} {g0 g : G} (hr : runWith upd P s0 g0 ls = some (s, g)) (h0 : Inv s0 g0) : Inv s g :=
  runWith_induction Inv (fun _ _ => True) (fun s g l s' o _ => hstep s g l s' o) hr h0 fun _ _ _ _ _ _ => trivial

theorem run_induction_along (Inv : St → Prop) (ok : St → Label → Prop)
    (hstep : ∀ s l s' o, ok s l → Inv s → Step P s l s' o → Inv s')
    {ls : List Label} {s0 s : St} (hr : run P s0 ls = some s) (h0 : Inv s0)
    (hok : ∀ pre l post s1, ls = pre ++ l :: post → run P s0 pre = some s1 → ok s1 l) : Inv s := by
  obtain ⟨_, hr⟩ := run_runWith (upd := fun _ _ _ _ (u : Unit) => u) () hr
  exact runWith_induction (fun s _ => Inv s) ok (fun s _ => hstep s) hr h0 hok

theorem run_induction (Inv : St → Prop) (hstep : ∀ s l s' o, Inv s → Step P s l s' o → Inv s')
    {ls : List Label} {s0 s : St} (hr : run P s0 ls = some s) (h0 : Inv s0) : Inv s :=
  run_induction_along Inv (fun _ _ => True) (fun s l s' o _ => hstep s l s' o) hr h0 fun _ _ _ _ _ _ => trivial

/-- invariants are proved once per rule, from a source state known to be reachable, and hold in every reachable state -/
theorem Reachable.induction (Inv : St → Prop) (h0 : Inv {})
    (hstep : ∀ s l s' o, Reachable P s → Inv s → Step P s l s' o → Inv s') {s : St} (h : Reachable P s) : Inv s := by
  obtain ⟨ls, hr⟩ := h
  exact run_induction_along Inv (fun s _ => Reachable P s) hstep hr h0 fun pre _ _ _ _ hr' => ⟨pre, hr'⟩

end Ynca.L4
